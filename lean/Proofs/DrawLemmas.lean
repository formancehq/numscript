/-
  Proofs/DrawLemmas.lean — for property C04: the interpreter's source functions
  (Model/Source.lean) refine the greedy draw of Spec/Draw.lean.
-/
import Proofs.DrawBoundLemmas

namespace NS

def avOf (env : Env) (snd : Senders) : Avail :=
  fun a => cacheGet env.cache a env.asset - pulled snd a

/-- The three-way match by which the refinement theorems of Properties/C04.lean relate an
    interpreter result to a draw, as a function, so that lemmas can be rewritten with it. -/
def Outcome.mapOk {α β : Type} (x : Outcome α) (f : α → β) : Outcome β :=
  match x with
  | .ok a => .ok (f a)
  | .err e => .err e
  | .panic s => .panic s

@[simp] theorem Outcome.mapOk_ok {α β} (a : α) (f : α → β) : (Outcome.ok a).mapOk f = .ok (f a) := rfl
@[simp] theorem Outcome.mapOk_err {α β} (e : Err) (f : α → β) :
    (Outcome.err e : Outcome α).mapOk f = .err e := rfl
@[simp] theorem Outcome.mapOk_panic {α β} (s : String) (f : α → β) :
    (Outcome.panic s : Outcome α).mapOk f = .panic s := rfl

theorem avOf_append_nonzero (env : Env) (snd : Senders) (l : Pulls) :
    avOf env (snd ++ nonzero l) = availAfter (avOf env snd) l := by
  funext a
  simp only [avOf, availAfter, pulled_append_eq, pulled_nonzero]
  omega

section
variable {vars : Vars} {asset : String} {r : RSource} {rs : List RSource}

theorem resolveS_account_ok {e : Expr} (h : resolveS vars asset (.account e) = .ok r) :
    ∃ a, evalAs vars e expectAccount = .ok a ∧ r = if a = WORLD then .unb a else .acct a 0 := by
  rw [resolveS] at h
  split at h <;> cases h
  exact ⟨_, ‹_›, rfl⟩

theorem resolveS_overdraft_none_ok {x : Range} {addr : Expr}
    (h : resolveS vars asset (.overdraft x addr none) = .ok r) :
    ∃ a, evalAs vars addr expectAccount = .ok a ∧ r = .unb a := by
  rw [resolveS] at h
  split at h <;> cases h
  exact ⟨_, ‹_›, rfl⟩

theorem resolveS_overdraft_some_ok {x : Range} {addr b : Expr}
    (h : resolveS vars asset (.overdraft x addr (some b)) = .ok r) :
    ∃ od a, evalAs vars b (expectMonetaryOfAsset asset) = .ok od ∧
      evalAs vars addr expectAccount = .ok a ∧ r = if a = WORLD then .unb a else .acct a od := by
  rw [resolveS] at h
  split at h <;> try cases h
  split at h <;> cases h
  exact ⟨_, _, ‹_›, ‹_›, rfl⟩

theorem resolveS_inorder_ok {x : Range} {srcs : List Source}
    (h : resolveS vars asset (.inorder x srcs) = .ok r) :
    ∃ rs, resolveSList vars asset srcs = .ok rs ∧ r = .inorder rs := by
  rw [resolveS] at h
  split at h <;> cases h
  exact ⟨_, ‹_›, rfl⟩

theorem resolveS_capped_ok {x : Range} {cap : Expr} {src : Source}
    (h : resolveS vars asset (.capped x cap src) = .ok r) :
    ∃ c r', evalAs vars cap (expectMonetaryOfAsset asset) = .ok c ∧
      resolveS vars asset src = .ok r' ∧ r = .capped c r' := by
  rw [resolveS] at h
  split at h <;> try cases h
  split at h <;> cases h
  exact ⟨_, _, ‹_›, ‹_›, rfl⟩

theorem resolveS_allotment_ok {x : Range} {items : List SrcItem}
    (h : resolveS vars asset (.allotment x items) = .ok r) :
    ∃ qs subs, evalAllotItems vars (items.map SrcItem.allot) = .ok qs ∧
      resolveSItems vars asset items = .ok subs ∧ r = .allot qs subs := by
  rw [resolveS] at h
  split at h <;> try cases h
  split at h <;> cases h
  exact ⟨_, _, ‹_›, ‹_›, rfl⟩

theorem resolveSList_cons_ok {s : Source} {ss : List Source}
    (h : resolveSList vars asset (s :: ss) = .ok rs) :
    ∃ r rs', resolveS vars asset s = .ok r ∧ resolveSList vars asset ss = .ok rs' ∧
      rs = r :: rs' := by
  rw [resolveSList] at h
  split at h <;> try cases h
  split at h <;> cases h
  exact ⟨_, _, ‹_›, ‹_›, rfl⟩

theorem resolveSItems_cons_ok {x : Range} {q : AllotVal} {src : Source} {rest : List SrcItem}
    (h : resolveSItems vars asset (.mk x q src :: rest) = .ok rs) :
    ∃ r rs', resolveS vars asset src = .ok r ∧ resolveSItems vars asset rest = .ok rs' ∧
      rs = r :: rs' := by
  rw [resolveSItems] at h
  split at h <;> try cases h
  split at h <;> cases h
  exact ⟨_, _, ‹_›, ‹_›, rfl⟩

end

theorem resolveSItems_length (vars : Vars) (asset : String) : ∀ (items : List SrcItem) (subs : List RSource),
    resolveSItems vars asset items = .ok subs → subs.length = items.length
  | [], subs, h => by cases h; rfl
  | (.mk _ _ src) :: rest, subs, h => by
      obtain ⟨r, rs, -, hrs, rfl⟩ := resolveSItems_cons_ok h
      simp [resolveSItems_length vars asset rest rs hrs]

theorem drawAllot_sum (asset : String) : ∀ (subs : List RSource) (parts : List Int) (av : Avail) (l : Pulls),
    subs.length = parts.length → drawAllot asset subs parts av = .ok l → sumPulls l = parts.sum
  | [], [], av, l, _, h => by cases h; rfl
  | [], _ :: _, av, l, hl, h | _ :: _, [], av, l, hl, h => by cases hl
  | s :: ss, p :: ps, av, l, hl, h => by
      obtain ⟨l1, l2, -, hp, h2, rfl⟩ := drawAllot_cons_ok h
      rw [sumPulls_append, hp, drawAllot_sum asset ss ps _ l2 (by simpa using hl) h2, List.sum_cons]

section
variable {env : Env} {addr : Expr} {a : String}

theorem trySendingToAccount_none (amount : Int) (snd : Senders)
    (h : evalAs env.vars addr expectAccount = .ok a) :
    trySendingToAccount env addr amount none snd =
      (draw env.asset (.unb a) (avOf env snd) amount).mapOk
        (fun l => (sumPulls l, snd ++ nonzero l)) := by
  simp [trySendingToAccount, h, pushSender_eq, draw]

theorem trySendingToAccount_some (amount : Int) (snd : Senders) (o : Int)
    (h : evalAs env.vars addr expectAccount = .ok a) :
    trySendingToAccount env addr amount (some o) snd =
      (draw env.asset (if a = WORLD then .unb a else .acct a o) (avOf env snd) amount).mapOk
        (fun l => (sumPulls l, snd ++ nonzero l)) := by
  by_cases hw : a = WORLD <;>
    simp [trySendingToAccount, h, hw, pushSender_eq, draw, availableFunds, avOf]

theorem sendAllToAccount_none (snd : Senders) (h : evalAs env.vars addr expectAccount = .ok a) :
    sendAllToAccount env addr none snd =
      (drawAll env.asset (.unb a) (avOf env snd)).mapOk
        (fun l => (sumPulls l, snd ++ nonzero l)) := by
  simp [sendAllToAccount, h, drawAll]

theorem sendAllToAccount_some (snd : Senders) (o : Int)
    (h : evalAs env.vars addr expectAccount = .ok a) :
    sendAllToAccount env addr (some o) snd =
      (drawAll env.asset (if a = WORLD then .unb a else .acct a o) (avOf env snd)).mapOk
        (fun l => (sumPulls l, snd ++ nonzero l)) := by
  by_cases hw : a = WORLD <;>
    simp [sendAllToAccount, h, hw, pushSender_eq, drawAll, availableFunds, avOf]

end

mutual
theorem send_refines (env : Env) : ∀ (src : Source) (r : RSource) (need : Int) (snd : Senders),
    resolveS env.vars env.asset src = .ok r →
    trySendingUpTo env src need snd =
      (draw env.asset r (avOf env snd) need).mapOk (fun l => (sumPulls l, snd ++ nonzero l))
  | .nil, r, need, snd, hr => by cases hr
  | .account e, r, need, snd, hr => by
      obtain ⟨a, ha, rfl⟩ := resolveS_account_ok hr
      rw [trySendingUpTo]
      exact trySendingToAccount_some need snd 0 ha
  | .overdraft _ addr none, r, need, snd, hr => by
      obtain ⟨a, ha, rfl⟩ := resolveS_overdraft_none_ok hr
      rw [trySendingUpTo]
      exact trySendingToAccount_none need snd ha
  | .overdraft _ addr (some b), r, need, snd, hr => by
      obtain ⟨od, a, hod, ha, rfl⟩ := resolveS_overdraft_some_ok hr
      rw [trySendingUpTo]
      simp only [hod]
      exact trySendingToAccount_some need snd od ha
  | .inorder _ srcs, r, need, snd, hr => by
      obtain ⟨rs, hrs, rfl⟩ := resolveS_inorder_ok hr
      rw [trySendingUpTo, sendInorder_refines env srcs rs need snd hrs, draw]
      cases drawList env.asset rs (avOf env snd) need <;> simp
  | .capped _ cap src, r, need, snd, hr => by
      obtain ⟨c, r', hc, hr', rfl⟩ := resolveS_capped_ok hr
      rw [trySendingUpTo]
      simp only [hc]
      rw [send_refines env src r' _ snd hr', draw]
  | .allotment _ items, r, need, snd, hr => by
      obtain ⟨qs, subs, hqs, hsubs, rfl⟩ := resolveS_allotment_ok hr
      rw [trySendingUpTo, makeAllotment_eq, hqs]
      simp only [Outcome.ok_bind, draw]
      cases hp : allotOf need qs with
      | panic s | err e => rfl
      | ok parts =>
        have hlen : parts.length = items.length := by
          rw [allotOf_length _ _ _ hp, evalAllotItems_length _ _ _ hqs, List.length_map]
        simp only
        rw [sendAllotItems_refines env items subs parts snd hsubs hlen.ge]
        cases hd : drawAllot env.asset subs parts (avOf env snd) with
        | panic s | err e => rfl
        | ok l =>
          -- the interpreter reports the amount asked, the spec the amount drawn
          have := drawAllot_sum env.asset subs parts _ l
            (by rw [resolveSItems_length _ _ _ _ hsubs, hlen]) hd
          simp [this, allotOf_sum _ _ _ hp]

theorem sendInorder_refines (env : Env) : ∀ (srcs : List Source) (rs : List RSource) (left : Int) (snd : Senders),
    resolveSList env.vars env.asset srcs = .ok rs →
    sendInorder env srcs left snd =
      (drawList env.asset rs (avOf env snd) left).mapOk (fun l => (left - sumPulls l, snd ++ nonzero l))
  | [], rs, left, snd, hr => by
      cases hr
      simp [sendInorder, drawList]
  | s :: ss, rs, left, snd, hr => by
      obtain ⟨r, rs', hr1, hrs', rfl⟩ := resolveSList_cons_ok hr
      rw [sendInorder, send_refines env s r left snd hr1, drawList]
      cases draw env.asset r (avOf env snd) left with
      | panic s | err e => rfl
      | ok l1 =>
        simp only [Outcome.mapOk_ok]
        rw [sendInorder_refines env ss rs' _ _ hrs', avOf_append_nonzero]
        cases drawList env.asset rs' (availAfter (avOf env snd) l1) (left - sumPulls l1) <;>
          simp [sumPulls_append, nonzero_append, Int.sub_sub]

theorem sendAllotItems_refines (env : Env) : ∀ (items : List SrcItem) (subs : List RSource) (parts : List Int) (snd : Senders),
    resolveSItems env.vars env.asset items = .ok subs → items.length ≤ parts.length →
    sendAllotItems env items parts snd =
      (drawAllot env.asset subs parts (avOf env snd)).mapOk (fun l => snd ++ nonzero l)
  | [], subs, parts, snd, hr, hl => by
      cases hr
      simp [sendAllotItems, drawAllot]
  | (.mk _ _ src) :: rest, subs, [], snd, hr, hl => by simp at hl
  | (.mk _ _ src) :: rest, subs, p :: ps, snd, hr, hl => by
      obtain ⟨r, rs', hr1, hrs', rfl⟩ := resolveSItems_cons_ok hr
      rw [sendAllotItems, send_refines env src r p snd hr1, drawAllot]
      cases draw env.asset r (avOf env snd) p with
      | panic s | err e => rfl
      | ok l1 =>
        simp only [Outcome.mapOk_ok]
        split
        · rw [sendAllotItems_refines env rest rs' ps _ hrs' (by simpa using hl), avOf_append_nonzero]
          cases drawAllot env.asset rs' ps (availAfter (avOf env snd) l1) <;> simp [nonzero_append]
        · rfl
end

mutual
theorem sendAll_refines (env : Env) : ∀ (src : Source) (r : RSource) (snd : Senders),
    resolveS env.vars env.asset src = .ok r →
    sendAll env src snd =
      (drawAll env.asset r (avOf env snd)).mapOk (fun l => (sumPulls l, snd ++ nonzero l))
  | .nil, r, snd, hr => by cases hr
  | .account e, r, snd, hr => by
      obtain ⟨a, ha, rfl⟩ := resolveS_account_ok hr
      rw [sendAll]
      exact sendAllToAccount_some snd 0 ha
  | .overdraft _ addr none, r, snd, hr => by
      obtain ⟨a, ha, rfl⟩ := resolveS_overdraft_none_ok hr
      rw [sendAll]
      exact sendAllToAccount_none snd ha
  | .overdraft _ addr (some b), r, snd, hr => by
      obtain ⟨od, a, hod, ha, rfl⟩ := resolveS_overdraft_some_ok hr
      rw [sendAll]
      simp only [hod]
      exact sendAllToAccount_some snd od ha
  | .inorder _ srcs, r, snd, hr => by
      obtain ⟨rs, hrs, rfl⟩ := resolveS_inorder_ok hr
      rw [sendAll, sendAllList_refines env srcs rs 0 snd hrs, drawAll]
      cases drawAllList env.asset rs (avOf env snd) <;> simp
  | .capped _ cap src, r, snd, hr => by
      obtain ⟨c, r', hc, hr', rfl⟩ := resolveS_capped_ok hr
      rw [sendAll]
      simp only [hc]
      rw [send_refines env src r' _ snd hr', drawAll]
  | .allotment _ items, r, snd, hr => by
      obtain ⟨qs, subs, -, -, rfl⟩ := resolveS_allotment_ok hr
      rfl

theorem sendAllList_refines (env : Env) : ∀ (srcs : List Source) (rs : List RSource) (total : Int) (snd : Senders),
    resolveSList env.vars env.asset srcs = .ok rs →
    sendAllList env srcs total snd =
      (drawAllList env.asset rs (avOf env snd)).mapOk (fun l => (total + sumPulls l, snd ++ nonzero l))
  | [], rs, total, snd, hr => by
      cases hr
      simp [sendAllList, drawAllList]
  | s :: ss, rs, total, snd, hr => by
      obtain ⟨r, rs', hr1, hrs', rfl⟩ := resolveSList_cons_ok hr
      rw [sendAllList, sendAll_refines env s r snd hr1, drawAllList]
      cases drawAll env.asset r (avOf env snd) with
      | panic s | err e => rfl
      | ok l1 =>
        simp only [Outcome.mapOk_ok]
        rw [sendAllList_refines env ss rs' _ _ hrs', avOf_append_nonzero]
        cases drawAllList env.asset rs' (availAfter (avOf env snd) l1) <;>
          simp [sumPulls_append, nonzero_append, Int.add_assoc]
end

/-! ## spec-level facts about the draw -/

theorem drawAllot_zero (asset : String) : ∀ (subs : List RSource) (parts : List Int) (av : Avail) (l : Pulls),
    (∀ p ∈ parts, p = 0) → drawAllot asset subs parts av = .ok l → sumPulls l = 0
  | [], parts, av, l, _, h => by cases h; rfl
  | _ :: _, [], av, l, _, h => by cases h
  | s :: ss, p :: ps, av, l, hz, h => by
      obtain ⟨hp0, hps⟩ := List.forall_mem_cons.mp hz
      obtain ⟨l1, l2, -, hp, h2, rfl⟩ := drawAllot_cons_ok h
      rw [sumPulls_append, hp, hp0, drawAllot_zero asset ss ps _ l2 hps h2]
      rfl

mutual
theorem draw_zero (asset : String) : ∀ (r : RSource) (av : Avail) (l : Pulls),
    draw asset r av 0 = .ok l → sumPulls l = 0
  | .acct a od, av, l, h => by
      cases h
      simp only [sumPulls_single]
      omega
  | .unb a, av, l, h => by
      cases h
      rfl
  | .capped cap s, av, l, h => by
      rw [draw, show max 0 (min 0 cap) = 0 by omega] at h
      exact draw_zero asset s av l h
  | .inorder rs, av, l, h => drawList_zero asset rs av l h
  | .allot qs subs, av, l, h => by
      obtain ⟨parts, hp, h⟩ := draw_allot_ok h
      exact drawAllot_zero asset subs parts av l (allotOf_zero qs parts hp) h

theorem drawList_zero (asset : String) : ∀ (rs : List RSource) (av : Avail) (l : Pulls),
    drawList asset rs av 0 = .ok l → sumPulls l = 0
  | [], av, l, h => by cases h; rfl
  | s :: ss, av, l, h => by
      obtain ⟨l1, l2, h1, h2, rfl⟩ := drawList_cons_ok h
      have e1 := draw_zero asset s av l1 h1
      rw [e1] at h2
      rw [sumPulls_append, e1, drawList_zero asset ss _ l2 h2]
      rfl
end

/-- the only typed failures of a draw -/
def drawErr (e : Err) : Prop :=
  (∃ a n m, e = .missingFunds a n m) ∨ (∃ q, e = .invalidAllotmentSum q)

mutual
theorem draw_err (asset : String) : ∀ (r : RSource) (av : Avail) (need : Int) (e : Err),
    draw asset r av need = .err e → drawErr e
  | .acct a od, av, need, e, h | .unb a, av, need, e, h => by cases h
  | .capped cap s, av, need, e, h => draw_err asset s av _ e h
  | .inorder rs, av, need, e, h => drawList_err asset rs av need e h
  | .allot qs subs, av, need, e, h => by
      rw [draw] at h
      split at h
      · cases h
      · cases h
        exact .inr ⟨_, allotOf_err _ _ _ ‹_›⟩
      · exact drawAllot_err asset subs _ av e h

theorem drawList_err (asset : String) : ∀ (rs : List RSource) (av : Avail) (need : Int) (e : Err),
    drawList asset rs av need = .err e → drawErr e
  | [], av, need, e, h => by cases h
  | s :: ss, av, need, e, h => by
      rw [drawList] at h
      split at h
      · cases h
      · cases h
        exact draw_err asset s av need _ ‹_›
      · split at h <;> cases h
        exact drawList_err asset ss _ _ _ ‹_›

theorem drawAllot_err (asset : String) : ∀ (subs : List RSource) (parts : List Int) (av : Avail) (e : Err),
    drawAllot asset subs parts av = .err e → drawErr e
  | [], parts, av, e, h | _ :: _, [], av, e, h => by cases h
  | s :: ss, p :: ps, av, e, h => by
      rw [drawAllot] at h
      split at h
      · cases h
      · cases h
        exact draw_err asset s av p _ ‹_›
      · split at h
        · split at h <;> cases h
          exact drawAllot_err asset ss ps _ _ ‹_›
        · cases h
          exact .inl ⟨_, _, _, rfl⟩
end

mutual
  /-- every allotment node has as many portions as sub-sources (what `resolveS` produces) -/
  def allotLenOk : RSource → Prop
    | .acct _ _ => True
    | .unb _ => True
    | .capped _ s => allotLenOk s
    | .inorder l => allotLenOkList l
    | .allot qs subs => qs.length = subs.length ∧ allotLenOkList subs
  def allotLenOkList : List RSource → Prop
    | [] => True
    | s :: ss => allotLenOk s ∧ allotLenOkList ss
end

mutual
theorem resolveS_allotLenOk (vars : Vars) (asset : String) : ∀ (src : Source) (r : RSource),
    resolveS vars asset src = .ok r → allotLenOk r
  | .nil, r, hr => by cases hr
  | .account e, r, hr => by
      obtain ⟨a, -, rfl⟩ := resolveS_account_ok hr
      split <;> trivial
  | .overdraft _ addr none, r, hr => by
      obtain ⟨a, -, rfl⟩ := resolveS_overdraft_none_ok hr
      trivial
  | .overdraft _ addr (some b), r, hr => by
      obtain ⟨od, a, -, -, rfl⟩ := resolveS_overdraft_some_ok hr
      split <;> trivial
  | .inorder _ srcs, r, hr => by
      obtain ⟨rs, hrs, rfl⟩ := resolveS_inorder_ok hr
      exact resolveSList_allotLenOk vars asset srcs rs hrs
  | .capped _ cap src, r, hr => by
      obtain ⟨c, r', -, hr', rfl⟩ := resolveS_capped_ok hr
      exact resolveS_allotLenOk vars asset src r' hr'
  | .allotment _ items, r, hr => by
      obtain ⟨qs, subs, hqs, hsubs, rfl⟩ := resolveS_allotment_ok hr
      refine ⟨?_, resolveSItems_allotLenOk vars asset items subs hsubs⟩
      rw [evalAllotItems_length _ _ _ hqs, resolveSItems_length _ _ _ _ hsubs, List.length_map]

theorem resolveSList_allotLenOk (vars : Vars) (asset : String) : ∀ (srcs : List Source) (rs : List RSource),
    resolveSList vars asset srcs = .ok rs → allotLenOkList rs
  | [], rs, hr => by cases hr; trivial
  | s :: ss, rs, hr => by
      obtain ⟨r, rs', hr1, hrs', rfl⟩ := resolveSList_cons_ok hr
      exact ⟨resolveS_allotLenOk vars asset s r hr1, resolveSList_allotLenOk vars asset ss rs' hrs'⟩

theorem resolveSItems_allotLenOk (vars : Vars) (asset : String) : ∀ (items : List SrcItem) (rs : List RSource),
    resolveSItems vars asset items = .ok rs → allotLenOkList rs
  | [], rs, hr => by cases hr; trivial
  | (.mk _ _ src) :: rest, rs, hr => by
      obtain ⟨r, rs', hr1, hrs', rfl⟩ := resolveSItems_cons_ok hr
      exact ⟨resolveS_allotLenOk vars asset src r hr1, resolveSItems_allotLenOk vars asset rest rs' hrs'⟩
end

mutual
theorem draw_bounds (asset : String) : ∀ (r : RSource) (av : Avail) (need : Int) (l : Pulls),
    allotLenOk r → draw asset r av need = .ok l →
    min 0 need ≤ sumPulls l ∧ sumPulls l ≤ max 0 need
  | .acct a od, av, need, l, _, h | .unb a, av, need, l, _, h => by
      cases h
      simp only [sumPulls_single]
      omega
  | .capped cap s, av, need, l, hk, h => by
      have := draw_bounds asset s av (max 0 (min need cap)) l hk h
      omega
  | .inorder rs, av, need, l, hk, h => drawList_bounds asset rs av need l hk h
  | .allot qs subs, av, need, l, hk, h => by
      obtain ⟨parts, hp, h⟩ := draw_allot_ok h
      rw [drawAllot_sum asset subs parts av l (by rw [allotOf_length _ _ _ hp, hk.1]) h,
        allotOf_sum _ _ _ hp]
      omega

theorem drawList_bounds (asset : String) : ∀ (rs : List RSource) (av : Avail) (need : Int) (l : Pulls),
    allotLenOkList rs → drawList asset rs av need = .ok l →
    min 0 need ≤ sumPulls l ∧ sumPulls l ≤ max 0 need
  | [], av, need, l, _, h => by
      cases h
      simp only [sumPulls_nil]
      omega
  | s :: ss, av, need, l, hk, h => by
      obtain ⟨l1, l2, h1, h2, rfl⟩ := drawList_cons_ok h
      have b1 := draw_bounds asset s av need l1 hk.1 h1
      have b2 := drawList_bounds asset ss _ _ l2 hk.2 h2
      rw [sumPulls_append]
      omega
end

end NS
