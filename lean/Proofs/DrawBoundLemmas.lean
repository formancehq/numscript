/-
  Proofs/DrawBoundLemmas.lean — the list algebra of pulls and what a successful draw
  (Spec/Draw.lean) consists of, shared by the proofs about sources and destinations.
-/
import Spec.Draw
import Proofs.AllotLemmas

namespace NS

@[simp] theorem sumPulls_nil : sumPulls [] = 0 := rfl

@[simp] theorem sumPulls_single (a : String) (m : Int) : sumPulls [(a, m)] = m :=
  Int.add_zero m

theorem pulled_append_eq (l1 l2 : Pulls) (a : String) :
    pulled (l1 ++ l2) a = pulled l1 a + pulled l2 a := by
  induction l1 with
  | nil => simp [pulled]
  | cons p t ih =>
    obtain ⟨n, m⟩ := p
    simp only [List.cons_append, pulled, ih]
    omega

theorem sumPulls_append (l1 l2 : Pulls) : sumPulls (l1 ++ l2) = sumPulls l1 + sumPulls l2 := by
  induction l1 with
  | nil => simp
  | cons p t ih =>
    obtain ⟨n, m⟩ := p
    simp only [List.cons_append, sumPulls, ih]
    omega

theorem int_list_sum_nonneg (xs : List Int) (h : ∀ x ∈ xs, 0 ≤ x) : 0 ≤ xs.sum := by
  induction xs with
  | nil => exact le_rfl
  | cons x t ih =>
    obtain ⟨hx, ht⟩ := List.forall_mem_cons.mp h
    have := ih ht
    rw [List.sum_cons]
    omega

theorem sumPulls_eq_sum_map (l : Pulls) : sumPulls l = (l.map Prod.snd).sum := by
  induction l with
  | nil => rfl
  | cons p t ih => rw [List.map_cons, List.sum_cons, ← ih, sumPulls]

theorem sumPulls_nonneg_of (l : Pulls) (h : ∀ p ∈ l, 0 ≤ p.2) : 0 ≤ sumPulls l := by
  rw [sumPulls_eq_sum_map]
  exact int_list_sum_nonneg _ (List.forall_mem_map.mpr h)

@[simp] theorem nonzero_nil : nonzero [] = [] := rfl

theorem nonzero_cons (n : String) (m : Int) (t : Pulls) :
    nonzero ((n, m) :: t) = if m = 0 then nonzero t else (n, m) :: nonzero t := by
  by_cases hm : m = 0 <;> simp [nonzero, hm]

theorem nonzero_append (l1 l2 : Pulls) : nonzero (l1 ++ l2) = nonzero l1 ++ nonzero l2 :=
  List.filter_append ..

theorem pulled_nonzero (l : Pulls) (a : String) : pulled (nonzero l) a = pulled l a := by
  induction l with
  | nil => rfl
  | cons p t ih =>
    obtain ⟨n, m⟩ := p
    rw [nonzero_cons]
    split
    · subst m
      simp [pulled, ih]
    · simp only [pulled, ih]

theorem sumPulls_nonzero (l : Pulls) : sumPulls (nonzero l) = sumPulls l := by
  induction l with
  | nil => rfl
  | cons p t ih =>
    obtain ⟨n, m⟩ := p
    rw [nonzero_cons]
    split
    · subst m
      simp [sumPulls, ih]
    · simp only [sumPulls, ih]

theorem pushSender_eq (snd : Senders) (a : String) (m : Int) :
    pushSender snd a m = snd ++ nonzero [(a, m)] := by
  by_cases hm : m = 0 <;> simp [pushSender, nonzero_cons, hm]

theorem zero_le_maxGrant (g : List Int) : 0 ≤ maxGrant g := by
  induction g with
  | nil => exact le_rfl
  | cons x t ih => simp only [maxGrant]; omega

theorem maxGrant_append (g1 g2 : List Int) :
    maxGrant (g1 ++ g2) = max (maxGrant g1) (maxGrant g2) := by
  induction g1 with
  | nil =>
    have := zero_le_maxGrant g2
    simp only [List.nil_append, maxGrant]
    omega
  | cons x t ih =>
    simp only [List.cons_append, maxGrant, ih]
    omega

theorem unbInList_cons_false {a : String} {s : RSource} {ss : List RSource}
    (h : unbInList a (s :: ss) = false) : unbIn a s = false ∧ unbInList a ss = false := by
  rw [unbInList] at h
  exact Bool.or_eq_false_iff.mp h

section
variable {asset : String} {s : RSource} {ss : List RSource} {av : Avail} {l : Pulls}

theorem draw_allot_ok {qs : List (Option Rat)} {subs : List RSource} {need : Int}
    (h : draw asset (.allot qs subs) av need = .ok l) :
    ∃ parts, allotOf need qs = .ok parts ∧ drawAllot asset subs parts av = .ok l := by
  rw [draw] at h
  split at h <;> try cases h
  exact ⟨_, ‹_›, h⟩

theorem drawList_cons_ok {need : Int} (h : drawList asset (s :: ss) av need = .ok l) :
    ∃ l1 l2, draw asset s av need = .ok l1 ∧
      drawList asset ss (availAfter av l1) (need - sumPulls l1) = .ok l2 ∧ l = l1 ++ l2 := by
  rw [drawList] at h
  split at h <;> try cases h
  split at h <;> cases h
  exact ⟨_, _, ‹_›, ‹_›, rfl⟩

theorem drawAllot_cons_ok {p : Int} {ps : List Int}
    (h : drawAllot asset (s :: ss) (p :: ps) av = .ok l) :
    ∃ l1 l2, draw asset s av p = .ok l1 ∧ sumPulls l1 = p ∧
      drawAllot asset ss ps (availAfter av l1) = .ok l2 ∧ l = l1 ++ l2 := by
  rw [drawAllot] at h
  split at h <;> try cases h
  split at h <;> try cases h
  split at h <;> cases h
  exact ⟨_, _, ‹_›, ‹_›, ‹_›, rfl⟩

theorem drawAllList_cons_ok (h : drawAllList asset (s :: ss) av = .ok l) :
    ∃ l1 l2, drawAll asset s av = .ok l1 ∧
      drawAllList asset ss (availAfter av l1) = .ok l2 ∧ l = l1 ++ l2 := by
  rw [drawAllList] at h
  split at h <;> try cases h
  split at h <;> cases h
  exact ⟨_, _, ‹_›, ‹_›, rfl⟩

end

/-! "send all" is the draw of any large enough amount -/

mutual
theorem drawAll_eq_draw (asset : String) : ∀ (r : RSource) (av : Avail) (l : Pulls),
    drawAll asset r av = .ok l → ∃ b, 0 ≤ b ∧ ∀ need, b ≤ need → draw asset r av need = .ok l
  | .acct a od, av, l, h => by
      refine ⟨max 0 (av a + od), by omega, fun need hb => ?_⟩
      rw [← h, draw, drawAll, min_eq_left hb]
  | .unb a, av, l, h => by cases h
  | .allot _ _, av, l, h => by cases h
  | .capped cap s, av, l, h => by
      refine ⟨max 0 cap, by omega, fun need hb => ?_⟩
      rw [← h, draw, drawAll, min_eq_right (by omega)]
  | .inorder rs, av, l, h => by
      exact drawAllList_eq_drawList asset rs av l h

theorem drawAllList_eq_drawList (asset : String) : ∀ (rs : List RSource) (av : Avail) (l : Pulls),
    drawAllList asset rs av = .ok l →
    ∃ b, 0 ≤ b ∧ ∀ need, b ≤ need → drawList asset rs av need = .ok l
  | [], av, l, h => ⟨0, le_rfl, fun _ _ => by rwa [drawList, ← drawAllList]⟩
  | s :: ss, av, l, h => by
      obtain ⟨l1, l2, h1, h2, rfl⟩ := drawAllList_cons_ok h
      obtain ⟨b1, h0, hb1⟩ := drawAll_eq_draw asset s av l1 h1
      obtain ⟨b2, -, hb2⟩ := drawAllList_eq_drawList asset ss _ l2 h2
      refine ⟨max b1 (b2 + sumPulls l1), by omega, fun need hb => ?_⟩
      simp only [drawList, hb1 need (by omega), hb2 (need - sumPulls l1) (by omega)]
end

end NS
