/-
  The language server model (C19).  The document store: what one request does to the document
  under a URI.  Navigation: `hoverOnExpression` as a search through the children of a node
  (`ls_orElse`), which raises no typed error and only answers with a variable of the expression
  under the cursor.
-/
import Model.Lsp
import Spec.Names

namespace NS

theorem ls_lookup_cons (s : LspState) (u uri : String) (d : Doc) :
    lookupDoc ((u, d) :: s) uri = if u = uri then some d else lookupDoc s uri := by
  by_cases h : u = uri <;> simp [lookupDoc, h]

theorem ls_update_ok {s s' : LspState} {uri : String} {prog : Program} {pd : List Diag} {resp : Resp}
    (h : updateDocument s uri prog pd = .ok (s', resp)) :
    ∃ st, checkProgram pd prog = .ok st ∧ s' = (uri, ⟨prog, st⟩) :: s := by
  unfold updateDocument at h
  split at h <;> cases h
  exact ⟨_, ‹_›, rfl⟩

theorem ls_query_state {s s' : LspState} {r : Req} {resp : Resp}
    (hq : match r with | .didOpen .. => False | .didChange .. => False | _ => True)
    (h : lspStep s r = .ok (s', resp)) : s' = s := by
  cases r with
  | didOpen u p d | didChange u p d => exact hq.elim
  | hover u p | definition u p | symbols u =>
      simp only [lspStep] at h
      split at h
      · cases h; rfl
      · split at h <;> cases h <;> rfl

theorem ls_run_cons {s0 s : LspState} {r : Req} {rs : List Req} {resps : List Resp}
    (h : lspRun s0 (r :: rs) = .ok (s, resps)) :
    ∃ s1 resp resps', lspStep s0 r = .ok (s1, resp) ∧ lspRun s1 rs = .ok (s, resps') := by
  simp only [lspRun] at h
  split at h
  · cases h
  · cases h
  · rename_i s1 resp hstep
    split at h <;> cases h
    exact ⟨s1, resp, _, hstep, ‹_›⟩

def ls_reqBinding (r : Req) (uri : String) : Option (Program × List Diag) :=
  match r with
  | .didOpen u prog pd => if u = uri then some (prog, pd) else none
  | .didChange u prog pd => if u = uri then some (prog, pd) else none
  | _ => none

def ls_analyse (b : Program × List Diag) : Option Doc :=
  match checkProgram b.2 b.1 with
  | .ok st => some ⟨b.1, st⟩
  | _ => none

theorem ls_step_lookup {s0 s1 : LspState} {r : Req} {resp : Resp} (h : lspStep s0 r = .ok (s1, resp))
    (uri : String) :
    lookupDoc s1 uri = (match ls_reqBinding r uri with
                        | none => lookupDoc s0 uri
                        | some b => ls_analyse b) := by
  cases r with
  | didOpen u prog pd | didChange u prog pd =>
      obtain ⟨st, hst, rfl⟩ := ls_update_ok (by simpa [lspStep] using h)
      rw [ls_lookup_cons]
      by_cases hu : u = uri <;> simp [ls_reqBinding, hu, ls_analyse, hst]
  | hover u p | definition u p | symbols u => rw [ls_query_state trivial h]; rfl

/-- the hover functions try the children of a node in turn: the first answer wins -/
def ls_orElse (o1 o2 : Outcome (Option Hover)) : Outcome (Option Hover) :=
  match o1 with
  | .panic s => .panic s
  | .err e => .err e
  | .ok (some h) => .ok (some h)
  | .ok none => o2

theorem ls_hoverE_monetary (r : Range) (a n : Expr) (pos : Pos) :
    hoverOnExpression (.monetary r a n) pos =
      if ! r.contains pos then .ok none else ls_orElse (hoverOnExpression n pos) (hoverOnExpression a pos) := by
  rw [hoverOnExpression]; rfl

theorem ls_hoverE_infix (r : Range) (op : InfixOp) (l rgt : Expr) (pos : Pos) :
    hoverOnExpression (.infix r op l rgt) pos =
      if ! r.contains pos then .ok none else ls_orElse (hoverOnExpression l pos) (hoverOnExpression rgt pos) := by
  rw [hoverOnExpression]; rfl

theorem ls_node_ok {r : Range} {pos : Pos} {o1 o2 : Outcome (Option Hover)} {hv : Hover}
    (h : (if ! r.contains pos then .ok none else ls_orElse o1 o2) = .ok (some hv)) :
    o1 = .ok (some hv) ∨ o1 = .ok none ∧ o2 = .ok (some hv) := by
  split at h
  · cases h
  · unfold ls_orElse at h
    split at h
    · cases h
    · cases h
    · exact Or.inl (by rw [h])
    · exact Or.inr ⟨rfl, h⟩

theorem ls_hoverE_ne_err (e : Expr) (pos : Pos) : ∀ x : Err, hoverOnExpression e pos ≠ .err x := by
  have node : ∀ (r : Range) (c1 c2 : Expr), (∀ x, hoverOnExpression c1 pos ≠ .err x) →
      (∀ x, hoverOnExpression c2 pos ≠ .err x) → ∀ x,
      (if ! r.contains pos then .ok none
        else ls_orElse (hoverOnExpression c1 pos) (hoverOnExpression c2 pos)) ≠ .err x := by
    intro r c1 c2 h1 h2 x
    split
    · intro h; cases h
    · unfold ls_orElse
      split
      · intro h; cases h
      · rename_i e' he'; exact absurd he' (h1 e')
      · intro h; cases h
      · exact h2 x
  induction e with
  | monetary r a n iha ihn => rw [ls_hoverE_monetary]; exact node r n a ihn iha
  | «infix» r op l rgt ihl ihr => rw [ls_hoverE_infix]; exact node r l rgt ihl ihr
  | _ => simp [hoverOnExpression]

theorem ls_hoverE_sound (e : Expr) (pos : Pos) (hv : Hover)
    (h : hoverOnExpression e pos = .ok (some hv)) :
    ∃ r n, hv = .variable r n ∧ (r, n) ∈ usesE e ∧ r.contains pos = true := by
  induction e with
  | var r n =>
      simp only [hoverOnExpression] at h
      split at h <;> cases h
      exact ⟨r, n, rfl, by simp [usesE], ‹_›⟩
  | monetary r' a m iha ihm =>
      rw [ls_hoverE_monetary] at h
      rcases ls_node_ok h with h | ⟨_, h⟩
      · obtain ⟨r, n, e, hm, hc⟩ := ihm h
        exact ⟨r, n, e, List.mem_append_right _ hm, hc⟩
      · obtain ⟨r, n, e, hm, hc⟩ := iha h
        exact ⟨r, n, e, List.mem_append_left _ hm, hc⟩
  | «infix» r' op l rgt ihl ihr =>
      rw [ls_hoverE_infix] at h
      rcases ls_node_ok h with h | ⟨_, h⟩
      · obtain ⟨r, n, e, hm, hc⟩ := ihl h
        exact ⟨r, n, e, List.mem_append_left _ hm, hc⟩
      · obtain ⟨r, n, e, hm, hc⟩ := ihr h
        exact ⟨r, n, e, List.mem_append_right _ hm, hc⟩
  | _ => simp [hoverOnExpression] at h

theorem ls_hoverE_unique {e : Expr} {pos : Pos} {r : Range} {n : String} {hv : Hover}
    (hu : ∀ o ∈ usesE e, o.1.contains pos = true → o = (r, n))
    (h : hoverOnExpression e pos = .ok (some hv)) : hv = .variable r n := by
  obtain ⟨r', n', rfl, hm, hc⟩ := ls_hoverE_sound e pos hv h
  cases hu (r', n') hm hc
  rfl

theorem ls_orElse_eq_some {o1 o2 : Outcome (Option Hover)} {hv : Hover}
    (herr : ∀ x, o1 ≠ .err x) (hpanic : ∀ s, ls_orElse o1 o2 ≠ .panic s)
    (h1 : ∀ hv', o1 = .ok (some hv') → hv' = hv) (h2 : o1 = .ok none → o2 = .ok (some hv)) :
    ls_orElse o1 o2 = .ok (some hv) := by
  cases o1 with
  | panic s => exact absurd rfl (hpanic s)
  | err x => exact absurd rfl (herr x)
  | ok o =>
      cases o with
      | some hv' => cases h1 hv' rfl; rfl
      | none => exact h2 rfl

end NS
