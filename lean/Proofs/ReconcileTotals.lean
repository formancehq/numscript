/-
  Proofs/ReconcileTotals.lean — per-account totals of `Reconcile`, read off the unit
  pairing (`reconcile_rc_sumBy`) by counting in a zip.
-/
import Spec.Draw
import Proofs.ReconcileLemmas

namespace NS

theorem debitsOf_eq_rc_sumBy (ps : List Posting) (a : String) :
    debitsOf ps a = rc_sumBy (fun s _ => decide (s = a)) ps := rfl

theorem creditsOf_eq_rc_sumBy (ps : List Posting) (a : String) :
    creditsOf ps a = rc_sumBy (fun _ d => decide (d = a)) ps := rfl

theorem flowOf_eq_rc_sumBy (ps : List Posting) (s d : String) :
    flowOf ps s d = rc_sumBy (fun s' d' => decide (s' = s ∧ d' = d)) ps := rfl

theorem total_eq_rc_sumBy (ps : List Posting) : (ps.map (·.amount)).sum = rc_sumBy (fun _ _ => true) ps := by
  rw [rc_sumBy, List.filter_eq_self.2 (fun _ _ => rfl)]

theorem length_units {l : List (String × Int)} (h : ∀ p ∈ l, 0 < p.2) :
    ((units l).length : Int) = sumPulls l := by
  induction l with
  | nil => rfl
  | cons hd t ih =>
    obtain ⟨n, m⟩ := hd
    rw [List.forall_mem_cons] at h
    rw [units_cons, List.length_append, List.length_replicate, sumPulls, ← ih h.2, Int.natCast_add,
      Int.toNat_of_nonneg (Int.le_of_lt h.1)]

theorem length_units_le {l1 l2 : List (String × Int)} (h1 : ∀ p ∈ l1, 0 < p.2)
    (h2 : ∀ p ∈ l2, 0 < p.2) (hle : sumPulls l1 ≤ sumPulls l2) :
    (units l1).length ≤ (units l2).length := by
  rwa [← Int.ofNat_le, length_units h1, length_units h2]

theorem count_units {l : List (String × Int)} (h : ∀ p ∈ l, 0 < p.2) (a : String) :
    ((units l).count a : Int) = pulled l a := by
  induction l with
  | nil => rfl
  | cons hd t ih =>
    obtain ⟨n, m⟩ := hd
    rw [List.forall_mem_cons] at h
    simp only [units_cons, List.count_append, List.count_replicate, pulled, ← ih h.2, beq_iff_eq]
    split
    · rw [Int.natCast_add, Int.toNat_of_nonneg (Int.le_of_lt h.1)]
    · rw [Nat.zero_add, Int.zero_add]

theorem countP_zip_fst_le {α β : Type} (p : α → Bool) (X : List α) (Y : List β) :
    (X.zip Y).countP (fun u => p u.1) ≤ X.countP p := by
  induction X generalizing Y with
  | nil => simp
  | cons x X ih =>
    cases Y with
    | nil => simp
    | cons y Y =>
      have := ih Y
      simp only [List.zip_cons_cons, List.countP_cons]
      omega

theorem countP_zip_fst {α β : Type} (p : α → Bool) {X : List α} {Y : List β}
    (h : X.length ≤ Y.length) : (X.zip Y).countP (fun u => p u.1) = X.countP p := by
  rw [← List.map_fst_zip h, List.countP_map, List.map_fst_zip h]
  rfl

theorem countP_zip_snd {α β : Type} (p : β → Bool) {X : List α} {Y : List β}
    (h : Y.length ≤ X.length) : (X.zip Y).countP (fun u => p u.2) = Y.countP p := by
  rw [← List.map_snd_zip h, List.countP_map, List.map_snd_zip h]
  rfl

theorem reconcile_debits_of_le (asset : String) (ss rs : List (String × Int))
    (hs : ∀ p ∈ ss, 0 < p.2) (hr : ∀ p ∈ rs, 0 < p.2) (hle : sumPulls ss ≤ sumPulls rs)
    (hk : pulled rs KEPT_ADDR = 0) (a : String) : debitsOf (Reconcile asset ss rs) a = pulled ss a := by
  have hnk : KEPT_ADDR ∉ units rs := by
    rw [← List.count_eq_zero, ← Int.ofNat_inj, count_units hr, hk]
    rfl
  rw [debitsOf_eq_rc_sumBy, reconcile_rc_sumBy asset _ ss rs hs hr, ← count_units hs a,
    List.count_eq_countP, ← countP_zip_fst _ (length_units_le hs hr hle)]
  congr 1
  refine List.countP_congr (fun u hu => ?_)
  have : u.2 ≠ KEPT_ADDR := fun e => hnk (e ▸ (List.of_mem_zip hu).2)
  simp [this]

theorem reconcile_credits_of_le (asset : String) (ss rs : List (String × Int))
    (hs : ∀ p ∈ ss, 0 < p.2) (hr : ∀ p ∈ rs, 0 < p.2) (hle : sumPulls rs ≤ sumPulls ss)
    (x : String) (hx : x ≠ KEPT_ADDR) :
    creditsOf (Reconcile asset ss rs) x = pulled rs x := by
  rw [creditsOf_eq_rc_sumBy, reconcile_rc_sumBy asset _ ss rs hs hr, ← count_units hr x,
    List.count_eq_countP, ← countP_zip_snd _ (length_units_le hr hs hle)]
  congr 1
  refine List.countP_congr (fun u _ => ?_)
  have : u.2 = x → u.2 ≠ KEPT_ADDR := fun e => e ▸ hx
  simpa using this

theorem reconcile_total_of_le (asset : String) (ss rs : List (String × Int))
    (hs : ∀ p ∈ ss, 0 < p.2) (hr : ∀ p ∈ rs, 0 < p.2) (hle : sumPulls rs ≤ sumPulls ss) :
    ((Reconcile asset ss rs).map (·.amount)).sum = sumPulls rs - pulled rs KEPT_ADDR := by
  have hlen := length_units_le hr hs hle
  have hsplit := List.length_eq_countP_add_countP (· == KEPT_ADDR) (l := units rs)
  rw [← countP_zip_snd (fun d => decide ¬(d == KEPT_ADDR)) hlen] at hsplit
  rw [total_eq_rc_sumBy, reconcile_rc_sumBy asset _ ss rs hs hr, ← length_units hr,
    ← count_units hr KEPT_ADDR, List.count_eq_countP, hsplit,
    List.countP_congr (q := fun u => decide ¬(u.2 == KEPT_ADDR) = true) (by simp), pairUnits]
  omega

theorem rc_sumBy_nonneg (g : String → String → Bool) {l : List Posting} (h : ∀ p ∈ l, 0 < p.amount) :
    0 ≤ rc_sumBy g l := by
  induction l with
  | nil => simp [rc_sumBy]
  | cons p t ih =>
    rw [List.forall_mem_cons] at h
    have := ih h.2
    have := h.1
    rw [rc_sumBy_cons]
    split <;> omega

theorem rc_sumBy_take_le (g : String → String → Bool) {l : List Posting}
    (h : ∀ p ∈ l, 0 < p.amount) (k : Nat) : rc_sumBy g (l.take k) ≤ rc_sumBy g l := by
  have h1 := rc_sumBy_nonneg g (fun p hp => h p (List.mem_of_mem_drop hp) : ∀ p ∈ l.drop k, _)
  have h2 := rc_sumBy_append g (l.take k) (l.drop k)
  rw [List.take_append_drop] at h2
  omega

end NS
