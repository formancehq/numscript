/-
  The lexer skips layout (for Properties/C15layout2.lean and, with single blanks as separators, for
  Properties/C15render.lean): at a whitespace character, at `/*body*/` and at `//body` + newline the skipped rule
  wins, and what remains of a layout is a layout, so a layout in front of a token or of the end of the text is skipped
  (`ly_skip`).
-/
import Spec.Layout
import Proofs.LongestMatch

namespace NS

theorem ly_layout_inv (s : List Char) (h : Layout s) :
    s = [] ∨ (∃ c t, s = c :: t ∧ isWsChar c = true ∧ Layout t) ∨
    (∃ body t, s = '/' :: '*' :: (body ++ '*' :: '/' :: t) ∧ blockBodyOk body = true ∧ Layout t) ∨
    (∃ body c t, s = '/' :: '/' :: (body ++ c :: t) ∧ lineBodyOk body = true ∧ isNlChar c = true ∧ Layout t) := by
  cases h with
  | nil => exact Or.inl rfl
  | ws c t hc ht => exact Or.inr (Or.inl ⟨c, t, rfl, hc, ht⟩)
  | block body t hb ht => exact Or.inr (Or.inr (Or.inl ⟨body, t, rfl, hb, ht⟩))
  | line body c t hb hc ht => exact Or.inr (Or.inr (Or.inr ⟨body, c, t, rfl, hb, hc, ht⟩))

theorem ly_layout_tail (c : Char) (t : List Char) (h : Layout (c :: t)) (hc : isWsChar c = true) : Layout t := by
  rcases ly_layout_inv _ h with h0 | ⟨c', t', he, _, ht⟩ | ⟨body, t', he, _, _⟩ | ⟨body, c', t', he, _, _, _⟩
  · simp at h0
  · simp only [List.cons.injEq] at he; rw [he.2]; exact ht
  · simp only [List.cons.injEq] at he; rw [he.1] at hc; exact absurd hc (by decide)
  · simp only [List.cons.injEq] at he; rw [he.1] at hc; exact absurd hc (by decide)

theorem ly_layout_slash (r : List Char) (h : Layout r) : lm_slashOk r := by
  rintro r3 rfl
  rcases ly_layout_inv _ h with h0 | ⟨c', t', he, hc, ht⟩ | ⟨body, t', he, _, _⟩ | ⟨body, c', t', he, _, _, _⟩
  · simp at h0
  · simp only [List.cons.injEq] at he; rw [← he.1] at hc; exact absurd hc (by decide)
  · simp only [List.cons.injEq, true_and] at he; exact ⟨_, _, he, Or.inl rfl⟩
  · simp only [List.cons.injEq, true_and] at he; exact ⟨_, _, he, Or.inr rfl⟩

theorem ly_layout_append (a b : List Char) (ha : Layout a) (hb : Layout b) : Layout (a ++ b) := by
  induction ha with
  | nil => exact hb
  | ws c t hc _ ih => exact Layout.ws c _ hc ih
  | block body t hbody _ ih =>
    simpa using Layout.block body _ hbody ih
  | line body c t hbody hc _ ih =>
    simpa using Layout.line body c _ hbody hc ih

theorem ly_slashOk_layout (lay rest : List Char) (hl : Layout lay) (hr : lm_Next lm_tokStart rest) :
    lm_slashOk (lay ++ rest) := by
  cases lay with
  | nil => exact lm_slashOk_of_next (lm_Next_mono (fun _ h => h.2) hr)
  | cons a t => exact lm_slashOk_append rest (List.cons_ne_nil _ _) (ly_layout_slash _ hl)

theorem ly_after_sep (sep rest : List Char) (hs : SafeSep sep) (hr : lm_Next lm_tokStart rest) :
    lm_After (sep ++ rest) := by
  obtain ⟨hl, c, t, rfl, hc⟩ := hs
  exact ⟨hc, ly_slashOk_layout t rest (ly_layout_tail c t hl hc) hr⟩

theorem ly_drop_span (p : Char → Bool) (hp : ∀ c, p c = true → isWsChar c = true) (rest : List Char)
    (hr : lm_Next lm_tokStart rest) : ∀ sep : List Char, Layout sep →
    ∃ sep', (sep ++ rest).drop (spanLen p (sep ++ rest)) = sep' ++ rest ∧ Layout sep' ∧
      sep'.length + spanLen p (sep ++ rest) = sep.length := by
  intro sep
  induction sep with
  | nil =>
    intro _
    have h0 : spanLen p rest = 0 :=
      lm_spanLen_next p (fun c hc => Bool.eq_false_iff.mpr fun hpc => Bool.false_ne_true (hc.1.symm.trans (hp c hpc))) hr
    exact ⟨[], by simp [h0], Layout.nil, by simp [h0]⟩
  | cons a t ih =>
    intro hl
    cases hpa : p a with
    | true =>
      obtain ⟨sep', h1, h2, h3⟩ := ih (ly_layout_tail a t hl (hp a hpa))
      refine ⟨sep', ?_, h2, ?_⟩
      · rw [List.cons_append, lm_spanLen_succ p a _ hpa, List.drop_succ_cons]; exact h1
      · rw [List.cons_append, lm_spanLen_succ p a _ hpa, List.length_cons]; omega
    | false =>
      refine ⟨a :: t, ?_, hl, ?_⟩
      · rw [List.cons_append, lm_spanLen_zero p a _ hpa]; rfl
      · rw [List.cons_append, lm_spanLen_zero p a _ hpa]; rfl

/-! ### the three layout rules -/

theorem ly_best_ws (c : Char) (t : List Char) (hc : isWsChar c = true) :
    bestOf (candidates (c :: t)) = some (none, mWs (c :: t)) := by
  have hne : ∀ k, isWsChar k = false → c ≠ k := fun k => lm_ne_of hc
  have hd := lm_ws_false isDigit (by decide) c hc
  have hl := lm_ws_false isLowerChar (by decide) c hc
  have ha := lm_ws_false isAssetChar (by decide) c hc
  have hv : mWs (c :: t) ≠ 0 := by
    unfold mWs
    rw [lm_spanLen_succ _ _ _ hc]
    exact Nat.succ_ne_zero _
  refine lm_best_skip isWsChar (by decide) c t hc hl _ hv (List.mem_cons_self ..) ?_ ?_
  · simp only [lx_skips, lm_mBlock_zero c t (hne _ (by decide)), lm_mLine_zero c t (hne _ (by decide))]
    simp
  · simp only [lm_patterns_first, hd, hl, ha, hne '"' (by decide), hne '-' (by decide), hne '$' (by decide),
      hne '@' (by decide), hne '+' (by decide), Bool.false_eq_true, or_self, if_false]
    simp

theorem ly_noPair_tail (p q x : Char) (t : List Char) (h : noPair p q (x :: t) = true) : noPair p q t = true := by
  cases t with
  | nil => rfl
  | cons y t => simp only [noPair, Bool.and_eq_true] at h; exact h.2

theorem ly_noPair_head (p q x y : Char) (t : List Char) (h : noPair p q (x :: y :: t) = true) :
    ¬ (x = p ∧ y = q) := by
  intro hxy
  simp only [noPair, Bool.and_eq_true] at h
  simp [hxy.1, hxy.2] at h

theorem ly_commentBody (u : List Char) : ∀ (body : List Char) (fuel : Nat), body.length < fuel →
    noPair '*' '/' body = true → noPair '/' '*' body = true → body.getLast? ≠ some '/' →
    commentBody fuel (body ++ '*' :: '/' :: u) = some (body.length + 2) := by
  intro body
  induction body with
  | nil =>
    intro fuel hf _ _ _
    cases fuel with
    | zero => simp at hf
    | succ f => simp [commentBody]
  | cons a b ih =>
    intro fuel hf h1 h2 h3
    cases fuel with
    | zero => simp at hf
    | succ f =>
      have hrec : commentBody f (b ++ '*' :: '/' :: u) = some (b.length + 2) := by
        apply ih f (by simp at hf; omega) (ly_noPair_tail _ _ _ _ h1) (ly_noPair_tail _ _ _ _ h2)
        cases b with
        | nil => simp
        | cons y b' => simpa [List.getLast?_cons_cons] using h3
      rw [List.cons_append]
      unfold commentBody
      split
      · rename_i heq
        exfalso
        cases b with
        | nil => simp at heq
        | cons y b' =>
          simp only [List.cons_append, List.cons.injEq] at heq
          exact ly_noPair_head _ _ _ _ _ h1 ⟨rfl, heq.1⟩
      · rename_i heq
        exfalso
        cases b with
        | nil => simp at h3
        | cons y b' =>
          simp only [List.cons_append, List.cons.injEq] at heq
          exact ly_noPair_head _ _ _ _ _ h2 ⟨rfl, heq.1⟩
      · rw [hrec]; simp

theorem ly_mBlock_val (body u : List Char) (hb : blockBodyOk body = true) :
    mBlockComment ('/' :: '*' :: (body ++ '*' :: '/' :: u)) = body.length + 4 := by
  simp only [blockBodyOk, Bool.and_eq_true, bne_iff_ne, ne_eq] at hb
  have h := ly_commentBody u body ((body ++ '*' :: '/' :: u).length + 1) (by simp; omega) hb.1.1 hb.1.2 hb.2
  simp only [mBlockComment, h]
  omega

theorem ly_best_block (body u : List Char) (hb : blockBodyOk body = true) :
    bestOf (candidates ('/' :: '*' :: (body ++ '*' :: '/' :: u))) = some (none, body.length + 4) := by
  have hv := ly_mBlock_val body u hb
  have hl : mLineComment ('/' :: '*' :: (body ++ '*' :: '/' :: u)) = 0 := rfl
  have ha : mAsset ('/' :: '*' :: (body ++ '*' :: '/' :: u)) = 1 := by
    rw [mAsset, lm_spanLen_succ _ _ _ (by decide), lm_spanLen_zero _ _ _ (by decide)]
  refine lm_best_skip (· == '/') (by decide) '/' _ rfl (by decide) _ (Nat.succ_ne_zero _) ?_ ?_ ?_
  · rw [← hv]
    exact List.mem_cons_of_mem _ (List.mem_cons_self ..)
  · simp only [lx_skips, hv, hl, lm_mWs_zero '/' _ (by decide)]
    simp
  · rw [lm_patterns_slash, ha]
    simp

theorem ly_spanLen_until (p : Char → Bool) (c : Char) (u : List Char) (hc : p c = false) :
    ∀ w : List Char, spanLen p (w ++ c :: u) ≤ w.length := by
  intro w
  induction w with
  | nil => rw [List.nil_append, lm_spanLen_zero p c u hc]; exact Nat.le_refl _
  | cons a w ih =>
    rw [List.cons_append]
    unfold spanLen
    split
    · simp only [List.length_cons]; omega
    · omega

theorem ly_mLine_val (body : List Char) (c : Char) (u : List Char) (hb : lineBodyOk body = true)
    (hc : isNlChar c = true) :
    mLineComment ('/' :: '/' :: (body ++ c :: u)) = 2 + body.length + spanLen isNlChar (c :: u) := by
  have hn : spanLen (fun c => !isNlChar c) (body ++ c :: u) = body.length := by
    rw [lm_spanLen_append _ body _ hb, lm_spanLen_zero _ c u (by simp [hc])]; rfl
  have hm : spanLen isNlChar (c :: u) ≠ 0 := by rw [lm_spanLen_succ _ _ _ hc]; omega
  simp only [mLineComment, hn, List.drop_left, if_neg hm]

theorem ly_mBlock_slash_slash (t : List Char) : mBlockComment ('/' :: '/' :: t) = 0 := by
  unfold mBlockComment
  split
  · rename_i heq; simp at heq
  · rfl

theorem ly_best_line (body : List Char) (c : Char) (u : List Char) (hb : lineBodyOk body = true)
    (hc : isNlChar c = true) :
    bestOf (candidates ('/' :: '/' :: (body ++ c :: u))) =
      some (none, 2 + body.length + spanLen isNlChar (c :: u)) := by
  have hv := ly_mLine_val body c u hb hc
  have hbl := ly_mBlock_slash_slash (body ++ c :: u)
  have hca : isAssetChar c = false := by
    rcases lm_nl_cases c hc with rfl | rfl <;> decide
  have ha : mAsset ('/' :: '/' :: (body ++ c :: u)) ≤ body.length + 2 := by
    simpa [mAsset] using ly_spanLen_until isAssetChar c u hca ('/' :: '/' :: body)
  refine lm_best_skip (· == '/') (by decide) '/' _ rfl (by decide) _ (by omega) ?_ ?_ ?_
  · rw [← hv]
    exact List.mem_cons_of_mem _ (List.mem_cons_of_mem _ (List.mem_cons_self ..))
  · simp only [lx_skips, hv, hbl, lm_mWs_zero '/' _ (by decide)]
    simp
  · rw [lm_patterns_slash]
    simp
    omega

/-! ### the loop -/

theorem ly_lexLoop_token (k : TK) (txt rest : List Char) (f l c : Nat) (hne : txt ≠ [])
    (hb : bestOf (candidates (txt ++ rest)) = some (some k, txt.length)) :
    lexLoop (f + 1) (txt ++ rest) l c =
      (lexLoop f rest (advance l c txt).1 (advance l c txt).2).map
        (fun toks => { kind := k, text := txt, line := l, col := c } :: toks) := by
  cases txt with
  | nil => exact absurd rfl hne
  | cons a u =>
    rw [List.cons_append, lx_lexLoop_cons, ← List.cons_append, hb]
    simp only [List.take_left', List.drop_left']
    cases lexLoop f rest (advance l c (a :: u)).1 (advance l c (a :: u)).2 <;> rfl

theorem ly_lexLoop_skip (a : Char) (cs : List Char) (n f l c : Nat)
    (hb : bestOf (candidates (a :: cs)) = some (none, n)) :
    lexLoop (f + 1) (a :: cs) l c =
      lexLoop f ((a :: cs).drop n) (advance l c ((a :: cs).take n)).1 (advance l c ((a :: cs).take n)).2 := by
  rw [lx_lexLoop_cons, hb]
  simp only
  cases lexLoop f ((a :: cs).drop n) (advance l c ((a :: cs).take n)).1 (advance l c ((a :: cs).take n)).2 <;> rfl

theorem ly_skip : ∀ (sep rest : List Char), Layout sep → lm_Next lm_tokStart rest →
    ∀ f l c, (sep ++ rest).length < f →
      ∃ f' l' c', rest.length < f' ∧ lexLoop f (sep ++ rest) l c = lexLoop f' rest l' c' := by
  intro sep
  induction hn : sep.length using Nat.strongRecOn generalizing sep with
  | ind n ih =>
    intro rest hl hr f l c hf
    subst hn
    cases f with
    | zero => omega
    | succ f =>
    rcases ly_layout_inv _ hl with rfl | ⟨a, t, rfl, ha, ht⟩ | ⟨body, t, rfl, hb, ht⟩ | ⟨body, a, t, rfl, hb, ha, ht⟩
    · exact ⟨f + 1, l, c, by simpa using hf, rfl⟩
    · obtain ⟨sep', h1, h2, h3⟩ := ly_drop_span isWsChar (fun _ h => h) rest hr (a :: t) hl
      have hbest := ly_best_ws a (t ++ rest) ha
      have hpos : spanLen isWsChar ((a :: t) ++ rest) = spanLen isWsChar (t ++ rest) + 1 :=
        lm_spanLen_succ _ _ _ ha
      rw [List.cons_append, ly_lexLoop_skip _ _ _ f l c hbest]
      unfold mWs
      rw [← List.cons_append, h1]
      simp only [List.length_cons, List.length_append] at hf h3
      exact ih sep'.length (by simp only [List.length_cons]; omega) sep' rfl rest h2 hr f _ _
        (by simp only [List.length_append]; omega)
    · have hbest := ly_best_block body (t ++ rest) hb
      have e : ('/' :: '*' :: (body ++ '*' :: '/' :: t)) ++ rest = '/' :: '*' :: (body ++ '*' :: '/' :: (t ++ rest)) := by
        simp
      have hd : ('/' :: '*' :: (body ++ '*' :: '/' :: (t ++ rest))).drop (body.length + 4) = t ++ rest := by
        have : '/' :: '*' :: (body ++ '*' :: '/' :: (t ++ rest)) = ('/' :: '*' :: (body ++ ['*', '/'])) ++ (t ++ rest) := by
          simp
        rw [this]
        exact List.drop_left' (by simp)
      rw [e, ly_lexLoop_skip _ _ _ f l c hbest, hd]
      simp only [List.length_cons, List.length_append] at hf
      exact ih t.length (by simp only [List.length_cons, List.length_append]; omega) t rfl rest ht hr f _ _
        (by simp only [List.length_append]; omega)
    · obtain ⟨sep', h1, h2, h3⟩ := ly_drop_span isNlChar lm_nl_ws rest hr (a :: t) (Layout.ws a t (lm_nl_ws a ha) ht)
      have hbest := ly_best_line body a (t ++ rest) hb ha
      have e : ('/' :: '/' :: (body ++ a :: t)) ++ rest = '/' :: '/' :: (body ++ a :: (t ++ rest)) := by
        simp
      have hd : ('/' :: '/' :: (body ++ a :: (t ++ rest))).drop (2 + body.length + spanLen isNlChar (a :: (t ++ rest)))
          = sep' ++ rest := by
        have : '/' :: '/' :: (body ++ a :: (t ++ rest)) = ('/' :: '/' :: body) ++ ((a :: t) ++ rest) := by
          simp
        rw [this, ← List.drop_drop, List.drop_left' (by simp; omega)]
        exact h1
      rw [e, ly_lexLoop_skip _ _ _ f l c hbest, hd]
      simp only [List.length_cons, List.length_append, List.cons_append] at hf h3
      exact ih sep'.length (by simp only [List.length_cons, List.length_append]; omega) sep' rfl rest h2 hr f _ _
        (by simp only [List.length_append]; omega)

theorem ly_skip_end (sep : List Char) (hl : Layout sep) (f l c : Nat) (hf : sep.length < f) :
    lexLoop f sep l c = some [] := by
  obtain ⟨f', l', c', hf', h⟩ := ly_skip sep [] hl trivial f l c (by simpa using hf)
  rw [List.append_nil] at h
  rw [h]
  cases f' with
  | zero => simp at hf'
  | succ f'' => exact lx_lexLoop_nil _ _ _

theorem ly_interleave_next (s : Shape) (rest : List Shape) (seps : List (List Char)) (hs : s.Lexable)
    (trail : List Char) : lm_Next lm_tokStart (interleave (s :: rest) seps ++ trail) := by
  obtain ⟨hne, hh⟩ := lm_lexable_head s hs
  have : ∃ x, interleave (s :: rest) seps = s.2 ++ x := by
    cases rest with
    | nil => exact ⟨[], by cases seps <;> simp [interleave]⟩
    | cons s2 r =>
      cases seps with
      | nil => exact ⟨' ' :: interleave (s2 :: r) [], rfl⟩
      | cons sep seps => exact ⟨sep ++ interleave (s2 :: r) seps, by simp [interleave]⟩
  obtain ⟨x, hx⟩ := this
  rw [hx, List.append_assoc]
  exact lm_Next_append _ hne hh

theorem ly_render_eq_interleave (shapes : List Shape) : renderShapes shapes = interleave shapes [] := by
  induction shapes with
  | nil => rfl
  | cons s rest ih =>
    cases rest with
    | nil => rfl
    | cons s2 r => exact congrArg (fun x => s.2 ++ ' ' :: x) ih

theorem ly_safeSep_blank : SafeSep [' '] :=
  ⟨Layout.ws ' ' [] (by decide) Layout.nil, ' ', [], rfl, by decide⟩

theorem ly_lexLoop_step (s : Shape) (hs : s.Lexable) (sep rest : List Char) (hl : Layout sep) (hr : lm_Next lm_tokStart rest)
    (ha : lm_After (sep ++ rest)) (f l c : Nat) (hf : (s.2 ++ (sep ++ rest)).length < f) :
    ∃ f' l' c', rest.length < f' ∧ (lexLoop f (s.2 ++ (sep ++ rest)) l c).map (fun ts => ts.map Tok.shape) =
      ((lexLoop f' rest l' c').map (fun ts => ts.map Tok.shape)).map (s :: ·) := by
  have hne := (lm_lexable_head s hs).1
  cases f with
  | zero => omega
  | succ f =>
    rw [ly_lexLoop_token s.1 s.2 _ f l c hne (lm_best_of_lexable s hs _ ha)]
    have hlen : 0 < s.2.length := List.length_pos_iff.mpr hne
    simp only [List.length_append] at hf
    obtain ⟨f', l', c', hf', hskip⟩ := ly_skip sep rest hl hr f
      (advance l c s.2).1 (advance l c s.2).2 (by simp only [List.length_append]; omega)
    refine ⟨f', l', c', hf', ?_⟩
    rw [hskip]
    cases lexLoop f' rest l' c' <;> rfl

theorem ly_lexLoop_layout (shapes : List Shape) (h : ∀ s ∈ shapes, s.Lexable) (trail : List Char)
    (htrail : trail = [] ∨ SafeSep trail) :
    ∀ (seps : List (List Char)), (∀ sep ∈ seps, SafeSep sep) → ∀ f l c,
      (interleave shapes seps ++ trail).length < f →
      (lexLoop f (interleave shapes seps ++ trail) l c).map (fun ts => ts.map Tok.shape) = some shapes := by
  obtain ⟨htl, hta⟩ : Layout trail ∧ lm_After (trail ++ []) := by
    rcases htrail with rfl | ht
    · exact ⟨Layout.nil, lm_After_nil⟩
    · exact ⟨ht.1, ly_after_sep trail [] ht trivial⟩
  induction shapes with
  | nil =>
    intro seps _ f l c hf
    simp only [interleave, List.nil_append] at hf ⊢
    rw [ly_skip_end trail htl f l c hf]
    rfl
  | cons s rest ih =>
    have hs := h s (by simp)
    have ih' := ih (fun x hx => h x (by simp [hx]))
    cases rest with
    | nil =>
      intro seps _ f l c hf
      have hi : interleave [s] seps = s.2 := by cases seps <;> rfl
      rw [hi, ← List.append_nil trail] at hf ⊢
      obtain ⟨f', l', c', hf', e⟩ := ly_lexLoop_step s hs trail [] htl trivial hta f l c hf
      rw [e]
      cases f' with
      | zero => cases hf'
      | succ f'' => rfl
    | cons s2 r =>
      have key : ∀ (sep : List Char) (seps' : List (List Char)), SafeSep sep → (∀ x ∈ seps', SafeSep x) →
          ∀ f l c, (s.2 ++ sep ++ interleave (s2 :: r) seps' ++ trail).length < f →
          (lexLoop f (s.2 ++ sep ++ interleave (s2 :: r) seps' ++ trail) l c).map (fun ts => ts.map Tok.shape)
            = some (s :: s2 :: r) := by
        intro sep seps' hsep hseps' f l c hf
        have hth := ly_interleave_next s2 r seps' (h s2 (by simp)) trail
        rw [List.append_assoc, List.append_assoc] at hf ⊢
        obtain ⟨f', l', c', hf', e⟩ := ly_lexLoop_step s hs sep _ hsep.1 hth (ly_after_sep sep _ hsep hth) f l c hf
        rw [e, ih' seps' hseps' f' l' c' hf']
        rfl
      intro seps hseps f l c hf
      cases seps with
      | nil =>
        have hi : interleave (s :: s2 :: r) [] = s.2 ++ [' '] ++ interleave (s2 :: r) [] := by simp [interleave]
        rw [hi] at hf ⊢
        exact key [' '] [] ly_safeSep_blank nofun f l c hf
      | cons sep seps' =>
        exact key sep seps' (hseps sep (by simp)) (fun x hx => hseps x (by simp [hx])) f l c hf

end NS
