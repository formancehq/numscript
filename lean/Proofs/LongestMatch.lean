/-
  Which rule of the lexer wins at the start of a well-spelt token.

  `candidates cs` lists the rules in the order of the grammar: three skipped rules, the keyword and punctuation
  literals, nine pattern rules (`lx_candidates_eq`).  A rule matches nothing unless the first character is one its
  pattern can start with, so at the start of a token of a given kind all but a few entries are 0; the rule of the
  token's own kind matches the whole text when the end of the input or a whitespace character follows, and `bestOf`
  selects it.
-/
import Proofs.LexLemmas

namespace NS

/-! ### `bestOf`: the first entry of maximal non-zero length -/

theorem lm_bestOf_head (k : Option TK) (n : Nat) (l : List (Option TK × Nat)) (hn : n ≠ 0)
    (h : ∀ y ∈ l, y.2 ≤ n) : bestOf ((k, n) :: l) = some (k, n) := by
  unfold bestOf
  split
  · rename_i k' n' hb
    rw [if_pos ⟨h _ (lx_bestOf_mem l k' n' hb).1, hn⟩]
  · rw [if_pos hn]

theorem lm_bestOf_cons_lt (x : Option TK × Nat) (l : List (Option TK × Nat)) (k : Option TK) (n : Nat)
    (hx : x.2 < n) (h : bestOf l = some (k, n)) : bestOf (x :: l) = some (k, n) := by
  unfold bestOf
  rw [h]
  exact if_neg fun hc => absurd hc.1 (Nat.not_le_of_lt hx)

theorem lm_bestOf_cons_zero (k : Option TK) (l : List (Option TK × Nat)) : bestOf ((k, 0) :: l) = bestOf l := by
  conv => lhs; unfold bestOf
  cases bestOf l with
  | none => rfl
  | some y => exact if_neg fun hc => hc.2 rfl

theorem lm_bestOf_append_lt (a l : List (Option TK × Nat)) (k : Option TK) (n : Nat)
    (ha : ∀ y ∈ a, y.2 < n) (h : bestOf l = some (k, n)) : bestOf (a ++ l) = some (k, n) := by
  induction a with
  | nil => exact h
  | cons x a ih =>
    exact lm_bestOf_cons_lt x _ k n (ha x (List.mem_cons_self ..))
      (ih fun y hy => ha y (List.mem_cons_of_mem _ hy))

theorem lm_bestOf_unique (l p : List (Option TK × Nat)) (k : Option TK) (n : Nat) (hn : n ≠ 0)
    (hmem : (k, n) ∈ l) (hl : ∀ y ∈ l, y = (k, n) ∨ y.2 < n) (hp : ∀ y ∈ p, y.2 ≤ n) :
    bestOf (l ++ p) = some (k, n) := by
  induction l with
  | nil => cases hmem
  | cons x l ih =>
    have hl' : ∀ y ∈ l, y = (k, n) ∨ y.2 < n := fun y hy => hl y (List.mem_cons_of_mem _ hy)
    rcases hl x (List.mem_cons_self ..) with rfl | hx
    · refine lm_bestOf_head k n _ hn fun y hy => ?_
      rcases List.mem_append.mp hy with hy | hy
      · rcases hl' y hy with rfl | hy
        · exact Nat.le_refl _
        · exact Nat.le_of_lt hy
      · exact hp y hy
    · rcases List.mem_cons.mp hmem with rfl | hmem
      · exact absurd hx (Nat.lt_irrefl _)
      · exact lm_bestOf_cons_lt x _ k n hx (ih hmem hl')

/-! ### character classes -/

theorem lm_lower_iff (c : Char) : isLowerChar c = true ↔ 97 ≤ c.toNat ∧ c.toNat ≤ 122 := by
  simp only [isLowerChar, Char.le_def, Bool.and_eq_true, decide_eq_true_eq, UInt32.le_iff_toNat_le]
  simp

theorem lm_upper_iff (c : Char) : isUpperChar c = true ↔ 65 ≤ c.toNat ∧ c.toNat ≤ 90 := by
  simp only [isUpperChar, Char.le_def, Bool.and_eq_true, decide_eq_true_eq, UInt32.le_iff_toNat_le]
  simp

theorem lm_digit_iff (c : Char) : isDigit c = true ↔ 48 ≤ c.toNat ∧ c.toNat ≤ 57 := by
  simp only [isDigit, Char.le_def, Bool.and_eq_true, decide_eq_true_eq, UInt32.le_iff_toNat_le]
  simp

theorem lm_ne_of {p : Char → Bool} {c k : Char} (hc : p c = true) (hk : p k = false) : c ≠ k := by
  rintro rfl; rw [hc] at hk; cases hk

theorem lm_lower_not_digit (c : Char) (h : isLowerChar c = true) : isDigit c = false := by
  have := (lm_lower_iff c).mp h
  exact Bool.eq_false_iff.mpr fun hd => by have := (lm_digit_iff c).mp hd; omega

theorem lm_lower_not_upper (c : Char) (h : isLowerChar c = true) : isUpperChar c = false := by
  have := (lm_lower_iff c).mp h
  exact Bool.eq_false_iff.mpr fun hd => by have := (lm_upper_iff c).mp hd; omega

theorem lm_upper_not_digit (c : Char) (h : isUpperChar c = true) : isDigit c = false := by
  have := (lm_upper_iff c).mp h
  exact Bool.eq_false_iff.mpr fun hd => by have := (lm_digit_iff c).mp hd; omega

theorem lm_flip {p q : Char → Bool} (h : ∀ c, p c = true → q c = false) (c : Char) (hq : q c = true) : p c = false :=
  Bool.eq_false_iff.mpr fun hp => by rw [h c hp] at hq; cases hq

theorem lm_upper_not_lower (c : Char) : isUpperChar c = true → isLowerChar c = false := lm_flip lm_lower_not_upper c

theorem lm_digit_not_lower (c : Char) : isDigit c = true → isLowerChar c = false := lm_flip lm_lower_not_digit c

theorem rd_digit_not_upper (c : Char) (h : isDigit c = true) : isUpperChar c = false := lm_flip lm_upper_not_digit c h

theorem lm_ws_cases (c : Char) (h : isWsChar c = true) : c = ' ' ∨ c = '\t' ∨ c = '\r' ∨ c = '\n' := by
  simpa [isWsChar, or_assoc] using h

theorem lm_nl_cases (c : Char) (h : isNlChar c = true) : c = '\r' ∨ c = '\n' := by
  simpa [isNlChar] using h

theorem lm_nl_ws (c : Char) (h : isNlChar c = true) : isWsChar c = true := by
  rcases lm_nl_cases c h with rfl | rfl <;> decide

theorem lm_ws_false (p : Char → Bool) (hp : p ' ' = false ∧ p '\t' = false ∧ p '\r' = false ∧ p '\n' = false)
    (c : Char) (hc : isWsChar c = true) : p c = false := by
  rcases lm_ws_cases c hc with rfl | rfl | rfl | rfl
  · exact hp.1
  · exact hp.2.1
  · exact hp.2.2.1
  · exact hp.2.2.2

theorem lm_lower_not_asset (c : Char) (h : isLowerChar c = true) : isAssetChar c = false := by
  have h1 : c ≠ '/' := lm_ne_of h (by decide)
  simp [isAssetChar, lm_lower_not_upper c h, lm_lower_not_digit c h, h1]

theorem lm_digit_asset (c : Char) (h : isDigit c = true) : isAssetChar c = true := by
  simp [isAssetChar, h]

theorem lm_upper_asset (c : Char) (h : isUpperChar c = true) : isAssetChar c = true := by
  simp [isAssetChar, h]

theorem lm_all_asset (l : List Char) (h : l.all isDigit = true) : l.all isAssetChar = true := by
  rw [List.all_eq_true] at h ⊢
  exact fun x hx => lm_digit_asset x (h x hx)

/-! ### `spanLen` -/

theorem lm_spanLen_append (p : Char → Bool) (t rest : List Char) (ht : t.all p = true) :
    spanLen p (t ++ rest) = t.length + spanLen p rest := by
  induction t with
  | nil => simp
  | cons a t ih =>
    simp only [List.all_cons, Bool.and_eq_true] at ht
    simp only [List.cons_append, spanLen, ht.1, if_true, ih ht.2, List.length_cons]
    omega

theorem lm_spanLen_zero (p : Char → Bool) (c : Char) (t : List Char) (h : p c = false) :
    spanLen p (c :: t) = 0 := by
  simp [spanLen, h]

theorem lm_spanLen_succ (p : Char → Bool) (c : Char) (t : List Char) (h : p c = true) :
    spanLen p (c :: t) = spanLen p t + 1 := by
  simp [spanLen, h]

/-! ### what follows a token: nothing, or a character of a given class -/

def lm_Next (p : Char → Prop) : List Char → Prop
  | [] => True
  | c :: _ => p c

theorem lm_Next_mono {p q : Char → Prop} (h : ∀ c, p c → q c) : ∀ {rest : List Char}, lm_Next p rest → lm_Next q rest
  | [], _ => trivial
  | c :: _, hc => h c hc

theorem lm_Next_append {p : Char → Prop} {a : List Char} (b : List Char) (hne : a ≠ []) (h : lm_Next p a) :
    lm_Next p (a ++ b) := by
  cases a with
  | nil => exact absurd rfl hne
  | cons c t => exact h

theorem lm_Next_of_all {p : Char → Bool} {q : Char → Prop} (h : ∀ c, p c = true → q c) :
    ∀ {l : List Char}, l.all p = true → lm_Next q l
  | [], _ => trivial
  | c :: _, hl => h c (by rw [List.all_cons, Bool.and_eq_true] at hl; exact hl.1)

theorem lm_spanLen_next (q : Char → Bool) {p : Char → Prop} (h : ∀ c, p c → q c = false) :
    ∀ {rest : List Char}, lm_Next p rest → spanLen q rest = 0
  | [], _ => rfl
  | c :: t, hc => lm_spanLen_zero q c t (h c hc)

theorem lm_spanLen_ws (p : Char → Bool) (hp : p ' ' = false ∧ p '\t' = false ∧ p '\r' = false ∧ p '\n' = false)
    (rest : List Char) (hr : lm_Next (isWsChar ·) rest) : spanLen p rest = 0 :=
  lm_spanLen_next p (lm_ws_false p hp) hr

theorem lm_spanLen_all (p : Char → Bool) (hp : p ' ' = false ∧ p '\t' = false ∧ p '\r' = false ∧ p '\n' = false)
    (t rest : List Char) (ht : t.all p = true) (hr : lm_Next (isWsChar ·) rest) : spanLen p (t ++ rest) = t.length := by
  rw [lm_spanLen_append p t rest ht, lm_spanLen_ws p hp rest hr]; rfl

/-- a character at which no skipped rule starts -/
def lm_tokStart (c : Char) : Prop := isWsChar c = false ∧ c ≠ '/'

theorem lm_tokStart_of (p : Char → Bool) (hp : p ' ' = false ∧ p '\t' = false ∧ p '\r' = false ∧ p '\n' = false)
    (hs : p '/' = false) (c : Char) (hc : p c = true) : lm_tokStart c :=
  ⟨lm_flip (lm_ws_false p hp) c hc, lm_ne_of hc hs⟩

theorem lm_lower_tokStart (c : Char) : isLowerChar c = true → lm_tokStart c :=
  lm_tokStart_of isLowerChar (by decide) (by decide) c

theorem lm_upper_tokStart (c : Char) : isUpperChar c = true → lm_tokStart c :=
  lm_tokStart_of isUpperChar (by decide) (by decide) c

theorem lm_digit_tokStart (c : Char) : isDigit c = true → lm_tokStart c :=
  lm_tokStart_of isDigit (by decide) (by decide) c

/-- a slash at the head of `r` opens a comment -/
def lm_slashOk (r : List Char) : Prop := ∀ r3, r = '/' :: r3 → ∃ x r4, r3 = x :: r4 ∧ (x = '*' ∨ x = '/')

theorem lm_slashOk_of_next {r : List Char} (h : lm_Next (· ≠ '/') r) : lm_slashOk r := by
  rintro r3 rfl
  exact absurd rfl h

theorem lm_slashOk_append {a : List Char} (b : List Char) (hne : a ≠ []) (h : lm_slashOk a) : lm_slashOk (a ++ b) := by
  intro r3 he
  cases a with
  | nil => exact absurd rfl hne
  | cons c t =>
    obtain ⟨rfl, rfl⟩ := List.cons.inj he
    obtain ⟨x, r4, rfl, hx⟩ := h t rfl
    exact ⟨x, r4 ++ b, rfl, hx⟩

/-- the text after a token: nothing, or a whitespace character not followed by a slash that could belong to a ratio -/
def lm_After (rest : List Char) : Prop := lm_Next (isWsChar ·) rest ∧ lm_slashOk rest.tail

theorem lm_After_nil : lm_After [] := ⟨trivial, lm_slashOk_of_next trivial⟩

/-! ### matchers that do not start here -/

theorem lm_mWs_zero (c : Char) (t : List Char) (h : isWsChar c = false) : mWs (c :: t) = 0 :=
  lm_spanLen_zero _ _ _ h

theorem lm_mBlock_zero (c : Char) (t : List Char) (h : c ≠ '/') : mBlockComment (c :: t) = 0 := by
  unfold mBlockComment
  split <;> simp_all

theorem lm_mLine_zero (c : Char) (t : List Char) (h : c ≠ '/') : mLineComment (c :: t) = 0 := by
  unfold mLineComment
  split <;> simp_all

theorem lm_mRatio_zero (c : Char) (t : List Char) (h : isDigit c = false) : mRatio (c :: t) = 0 := by
  rw [lx_mRatio_eq, lm_spanLen_zero _ _ _ h]; rfl

theorem lm_mPercent_zero (c : Char) (t : List Char) (h : isDigit c = false) : mPercent (c :: t) = 0 := by
  unfold mPercent
  simp only [lm_spanLen_zero _ _ _ h, if_true]

theorem lm_mString_zero (c : Char) (t : List Char) (h : c ≠ '"') : mString (c :: t) = 0 := by
  unfold mString
  split <;> simp_all

theorem lm_mIdent_zero (c : Char) (t : List Char) (h : isLowerChar c = false) : mIdent (c :: t) = 0 := by
  simp [mIdent, h]

theorem lm_mNumber_zero (c : Char) (t : List Char) (h1 : c ≠ '-') (h : isDigit c = false) :
    mNumber (c :: t) = 0 := by
  unfold mNumber
  split
  · rename_i heq; exact absurd (List.cons.inj heq).1 h1
  · exact lm_spanLen_zero _ _ _ h

theorem lm_mVarName_zero (c : Char) (t : List Char) (h : c ≠ '$') : mVarName (c :: t) = 0 := by
  unfold mVarName
  split <;> simp_all

theorem lm_mAccount_zero (c : Char) (t : List Char) (h : c ≠ '@') : mAccount (c :: t) = 0 := by
  unfold mAccount
  split <;> simp_all

theorem lm_mAsset_zero (c : Char) (t : List Char) (h : isAssetChar c = false) : mAsset (c :: t) = 0 :=
  lm_spanLen_zero _ _ _ h

theorem lm_guard {p : Prop} [Decidable p] {m : Nat} (h : ¬ p → m = 0) : (if p then m else 0) = m := by
  split
  · rfl
  · exact (h ‹_›).symm

/-- each pattern under the test on the first character without which it matches nothing -/
theorem lm_patterns_first (c : Char) (t : List Char) : lx_patterns (c :: t) =
    [(some .ratio, if isDigit c then mRatio (c :: t) else 0),
     (some .percent, if isDigit c then mPercent (c :: t) else 0),
     (some .string, if c = '"' then mString (c :: t) else 0),
     (some .ident, if isLowerChar c then mIdent (c :: t) else 0),
     (some .number, if isDigit c ∨ c = '-' then mNumber (c :: t) else 0),
     (some .varName, if c = '$' then mVarName (c :: t) else 0),
     (some .account, if c = '@' then mAccount (c :: t) else 0),
     (some .asset, if isAssetChar c then mAsset (c :: t) else 0),
     (some .plus, if c = '+' then mLiteral ['+'] (c :: t) else 0)] := by
  rw [lm_guard fun h => lm_mRatio_zero c t (Bool.eq_false_iff.mpr h),
    lm_guard fun h => lm_mPercent_zero c t (Bool.eq_false_iff.mpr h),
    lm_guard (lm_mString_zero c t),
    lm_guard fun h => lm_mIdent_zero c t (Bool.eq_false_iff.mpr h),
    lm_guard fun h => lm_mNumber_zero c t (fun e => h (Or.inr e)) (Bool.eq_false_iff.mpr fun e => h (Or.inl e)),
    lm_guard (lm_mVarName_zero c t),
    lm_guard (lm_mAccount_zero c t),
    lm_guard fun h => lm_mAsset_zero c t (Bool.eq_false_iff.mpr h),
    lm_guard fun h => lx_mLiteral_zero '+' [] c t (Ne.symm h)]
  rfl

/-! ### which segment of the rule list decides -/

theorem lm_best_token (c : Char) (t : List Char) (k : Option TK) (n : Nat) (hs : lm_tokStart c)
    (h : bestOf (lx_literals (c :: t) ++ lx_patterns (c :: t)) = some (k, n)) :
    bestOf (candidates (c :: t)) = some (k, n) := by
  have hn := Nat.pos_of_ne_zero (lx_bestOf_mem _ _ _ h).2
  rw [lx_candidates_eq]
  refine lm_bestOf_append_lt _ _ k n (fun y hy => ?_) h
  simp only [lx_skips, lm_mWs_zero c t hs.1, lm_mBlock_zero c t hs.2, lm_mLine_zero c t hs.2, List.mem_cons,
    List.not_mem_nil, or_false, or_self] at hy
  rw [hy]
  exact hn

theorem lm_best_pattern (c : Char) (t : List Char) (k : Option TK) (n : Nat) (hs : lm_tokStart c)
    (hlit : ∀ y ∈ lx_literals (c :: t), y.2 < n)
    (h : bestOf (lx_patterns (c :: t)) = some (k, n)) : bestOf (candidates (c :: t)) = some (k, n) :=
  lm_best_token c t k n hs (lm_bestOf_append_lt _ _ k n hlit h)

/-! ### the literals -/

theorem lm_kw_mem (p : TK × List Char) (hp : p ∈ lx_keywords) : p.2 ∈ keywordTexts :=
  lx_kw_texts ▸ List.mem_map_of_mem hp

theorem lm_punct_inj : ∀ p ∈ lx_puncts, ∀ q ∈ lx_puncts, p.2 = q.2 → p = q := by decide

/-- a punctuation character starts neither a skipped rule nor a pattern rule, NUMBER through `-` excepted -/
theorem lm_punct_other : ∀ p ∈ lx_puncts, isWsChar p.2 = false ∧ p.2 ≠ '/' ∧ isDigit p.2 = false ∧ p.2 ≠ '"' ∧
    isLowerChar p.2 = false ∧ p.2 ≠ '$' ∧ p.2 ≠ '@' ∧ isAssetChar p.2 = false ∧ p.2 ≠ '+' := by decide

/-- a kind with a fixed spelling is a keyword, a punctuation character, or `+` (which the grammar lists last) -/
theorem lm_fixed_cases (k : TK) (txt : List Char) (h : fixedText k = some txt) :
    (k, txt) ∈ lx_keywords ∨ (∃ c, txt = [c] ∧ (k, c) ∈ lx_puncts) ∨ (k = .plus ∧ txt = ['+']) := by
  have hk : k ∈ lx_kwKinds ∨ k ∈ lx_puncts.map Prod.fst ∨ k = .plus := by
    have hs : (fixedText k).isSome = true := by rw [h]; rfl
    cases k <;> revert hs <;> decide
  rcases hk with hk | hk | rfl
  · exact Or.inl (List.mem_map.mpr ⟨k, hk, by rw [h]; rfl⟩)
  · obtain ⟨p, hp, rfl⟩ := List.mem_map.mp hk
    exact Or.inr (Or.inl ⟨p.2, Option.some.inj (h.symm.trans (lx_punct_fixed p hp)), hp⟩)
  · exact Or.inr (Or.inr ⟨rfl, Option.some.inj h.symm⟩)

theorem lm_kw_zero (p : TK × List Char) (hp : p ∈ lx_keywords) (c : Char) (t : List Char)
    (hc : isLowerChar c = false) : mLiteral p.2 (c :: t) = 0 := by
  obtain ⟨k, kw, hk, hl, _⟩ := lx_kw_shape p hp
  rw [hk]
  exact lx_mLiteral_zero k kw c t (lm_ne_of hl hc)

theorem lm_punct_zero (q : Char → Bool) (hq : ∀ p ∈ lx_puncts, q p.2 = false) (p : TK × Char) (hp : p ∈ lx_puncts)
    (c : Char) (t : List Char) (hc : q c = true) : mLiteral [p.2] (c :: t) = 0 :=
  lx_mLiteral_zero p.2 [] c t (lm_ne_of hc (hq p hp)).symm

/-- `q` singles the character out among the punctuation characters -/
theorem lm_literals_lt (q : Char → Bool) (hq : ∀ p ∈ lx_puncts, q p.2 = false) (c : Char) (t : List Char)
    (hc : q c = true) (hl : isLowerChar c = false) (n : Nat) (hn : n ≠ 0) : ∀ y ∈ lx_literals (c :: t), y.2 < n := by
  refine lx_forall_literals _ _ (fun p hp => ?_) (fun p hp => ?_)
  · rw [lm_kw_zero p hp c t hl]; exact Nat.pos_of_ne_zero hn
  · rw [lm_punct_zero q hq p hp c t hc]; exact Nat.pos_of_ne_zero hn

theorem lm_prefix_ws (kw : List Char) (hkw : ∀ x ∈ kw, isWsChar x = false) (rest : List Char)
    (hr : lm_Next (isWsChar ·) rest) : ∀ s : List Char, kw <+: s ++ rest → kw <+: s := by
  induction kw with
  | nil => intro s _; exact List.nil_prefix
  | cons k kw ih =>
    intro s h
    cases s with
    | nil =>
      cases rest with
      | nil => simp at h
      | cons c r =>
        have hk := hkw k (by simp)
        rw [(List.cons_prefix_cons.mp h).1, (hr : isWsChar c = true)] at hk
        cases hk
    | cons a s =>
      simp only [List.cons_append, List.cons_prefix_cons] at h
      exact List.cons_prefix_cons.mpr ⟨h.1, ih (fun x hx => hkw x (by simp [hx])) s h.2⟩

/-- a `kw` without whitespace that is a prefix of `s ++ rest` is a prefix of `s`, and a proper one -/
theorem lm_kw_lt (kw s rest : List Char) (hkw : ∀ x ∈ kw, isWsChar x = false) (hne : s ≠ kw) (hs : s ≠ [])
    (hr : lm_Next (isWsChar ·) rest) : mLiteral kw (s ++ rest) < s.length := by
  unfold mLiteral
  split
  · rename_i h
    have hp := lm_prefix_ws kw hkw rest hr s (List.isPrefixOf_iff_prefix.mp h)
    have hle := hp.length_le
    rcases Nat.lt_or_eq_of_le hle with hlt | heq
    · exact hlt
    · exact absurd (hp.eq_of_length heq).symm hne
  · exact List.length_pos_iff.mpr hs

theorem lm_best_no_literal (q : Char → Bool) (hq : ∀ p ∈ lx_puncts, q p.2 = false) (c : Char) (t : List Char)
    (hc : q c = true) (hl : isLowerChar c = false) (hs : lm_tokStart c) (k : Option TK) (n : Nat)
    (h : bestOf (lx_patterns (c :: t)) = some (k, n)) : bestOf (candidates (c :: t)) = some (k, n) :=
  lm_best_pattern c t k n hs (lm_literals_lt q hq c t hc hl n (lx_bestOf_mem _ _ _ h).2) h

/-! ### the patterns by the class of the first character -/

theorem lm_patterns_lower (c : Char) (t : List Char) (hc : isLowerChar c = true) :
    lx_patterns (c :: t) =
      [(some .ratio, 0), (some .percent, 0), (some .string, 0), (some .ident, mIdent (c :: t)), (some .number, 0),
       (some .varName, 0), (some .account, 0), (some .asset, 0), (some .plus, 0)] := by
  have hne : ∀ k, isLowerChar k = false → c ≠ k := fun k => lm_ne_of hc
  simp only [lm_patterns_first, hc, lm_lower_not_digit c hc, lm_lower_not_asset c hc, hne '"' (by decide),
    hne '-' (by decide), hne '$' (by decide), hne '@' (by decide), hne '+' (by decide), Bool.false_eq_true,
    or_self, if_true, if_false]

theorem lm_patterns_digit (c : Char) (t : List Char) (hc : isDigit c = true) :
    lx_patterns (c :: t) =
      [(some .ratio, mRatio (c :: t)), (some .percent, mPercent (c :: t)), (some .string, 0), (some .ident, 0),
       (some .number, mNumber (c :: t)), (some .varName, 0), (some .account, 0), (some .asset, mAsset (c :: t)),
       (some .plus, 0)] := by
  have hne : ∀ k, isDigit k = false → c ≠ k := fun k => lm_ne_of hc
  simp only [lm_patterns_first, hc, lm_digit_not_lower c hc, lm_digit_asset c hc, hne '"' (by decide),
    hne '$' (by decide), hne '@' (by decide), hne '+' (by decide), Bool.false_eq_true, true_or, if_true, if_false]

/-! ### identifiers and keywords -/

theorem lm_mIdent_val (c : Char) (t rest : List Char) (hc : isLowerChar c = true)
    (ht : t.all isIdentTail = true) (hr : lm_Next (isWsChar ·) rest) : mIdent (c :: (t ++ rest)) = (c :: t).length := by
  simp only [mIdent, hc, if_true, lm_spanLen_all isIdentTail (by decide) t rest ht hr, List.length_cons]
  omega

theorem lm_best_ident (c : Char) (t rest : List Char) (hc : isLowerChar c = true)
    (ht : t.all isIdentTail = true) (hnk : c :: t ∉ keywordTexts) (hr : lm_Next (isWsChar ·) rest) :
    bestOf (candidates ((c :: t) ++ rest)) = some (some .ident, (c :: t).length) := by
  refine lm_best_pattern c (t ++ rest) _ _ (lm_lower_tokStart c hc) (lx_forall_literals _ _ (fun p hp => ?_) (fun p hp => ?_)) ?_
  · exact lm_kw_lt p.2 (c :: t) rest (lx_kw_noWs p hp) (fun e => hnk (e ▸ lm_kw_mem p hp))
      (List.cons_ne_nil _ _) hr
  · rw [lm_punct_zero isLowerChar (by decide) p hp c _ hc]
    exact Nat.succ_pos _
  · rw [lm_patterns_lower c _ hc, lm_mIdent_val c t rest hc ht hr]
    simp only [lm_bestOf_cons_zero]
    exact lm_bestOf_head _ _ _ (Nat.succ_ne_zero _) (by simp)

/-- every keyword but the one written is matched on a shorter stretch; IDENTIFIER matches as much, and comes later -/
theorem lm_best_keyword (k : TK) (txt : List Char) (hmem : (k, txt) ∈ lx_keywords) (rest : List Char)
    (hr : lm_Next (isWsChar ·) rest) : bestOf (candidates (txt ++ rest)) = some (some k, txt.length) := by
  obtain ⟨c, t, (htxt : txt = c :: t), hc, ht⟩ := lx_kw_shape _ hmem
  subst htxt
  have hself : (some k, mLiteral (c :: t) (c :: (t ++ rest))) = (some k, (c :: t).length) :=
    congrArg _ (lx_mLiteral_self (c :: t) rest)
  refine lm_best_token c (t ++ rest) _ _ (lm_lower_tokStart c hc)
    (lm_bestOf_unique _ _ _ _ (Nat.succ_ne_zero _) ?_
      (lx_forall_literals _ _ (fun p hp => ?_) (fun p hp => ?_)) ?_)
  · exact List.mem_append_left _ (List.mem_map.mpr ⟨_, hmem, hself⟩)
  · by_cases h : p.2 = c :: t
    · obtain rfl := lx_kw_inj p _ hp hmem h
      exact Or.inl hself
    · exact Or.inr (lm_kw_lt p.2 (c :: t) rest (lx_kw_noWs p hp) (Ne.symm h) (List.cons_ne_nil _ _) hr)
  · rw [lm_punct_zero isLowerChar (by decide) p hp c _ hc]
    exact Or.inr (Nat.succ_pos _)
  · rw [lm_patterns_lower c _ hc, lm_mIdent_val c t rest hc ht hr]
    simp

/-! ### punctuation -/

theorem lm_mNumber_nodigit (c : Char) (rest : List Char) (hc : isDigit c = false) (hr : spanLen isDigit rest = 0) :
    mNumber (c :: rest) = 0 := by
  unfold mNumber
  split
  · rename_i t heq
    rw [← (List.cons.inj heq).2, hr]
    rfl
  · exact lm_spanLen_zero _ _ _ hc

theorem lm_best_punct (k : TK) (c : Char) (hmem : (k, c) ∈ lx_puncts) (rest : List Char)
    (hr : lm_Next (isWsChar ·) rest) : bestOf (candidates (c :: rest)) = some (some k, 1) := by
  obtain ⟨hws, hsl, hd, hq, hl, hv, ha, hs, hp⟩ := lm_punct_other _ hmem
  have hself : (some k, mLiteral [c] (c :: rest)) = (some k, 1) := congrArg _ (lx_mLiteral_self [c] rest)
  have hnum := lm_mNumber_nodigit c rest hd (lm_spanLen_ws isDigit (by decide) rest hr)
  refine lm_best_token c rest _ _ ⟨hws, hsl⟩
    (lm_bestOf_unique _ _ _ _ Nat.one_ne_zero ?_ (lx_forall_literals _ _ (fun p hp' => ?_) (fun p hp' => ?_)) ?_)
  · exact List.mem_append_right _ (List.mem_map.mpr ⟨_, hmem, hself⟩)
  · rw [lm_kw_zero p hp' c rest hl]
    exact Or.inr Nat.one_pos
  · by_cases h : p.2 = c
    · obtain rfl := lm_punct_inj p hp' _ hmem h
      exact Or.inl hself
    · rw [lx_mLiteral_zero p.2 [] c rest h]
      exact Or.inr Nat.one_pos
  · simp only [lm_patterns_first, hd, hq, hl, hnum, hv, ha, hs, hp, Bool.false_eq_true, ite_self, if_false]
    simp

theorem lm_best_plus (rest : List Char) : bestOf (candidates ('+' :: rest)) = some (some .plus, 1) := by
  refine lm_best_no_literal (· == '+') (by decide) '+' rest rfl (by decide) ⟨by decide, by decide⟩ _ _ ?_
  simp (decide := true) only [lm_patterns_first, reduceIte, lm_bestOf_cons_zero]
  exact lm_bestOf_head _ _ _ Nat.one_ne_zero (by simp)

theorem lm_best_fixed (k : TK) (txt : List Char) (h : fixedText k = some txt) (rest : List Char)
    (hr : lm_Next (isWsChar ·) rest) : bestOf (candidates (txt ++ rest)) = some (some k, txt.length) := by
  rcases lm_fixed_cases k txt h with hp | ⟨c, rfl, hp⟩ | ⟨rfl, rfl⟩
  · exact lm_best_keyword k txt hp rest hr
  · exact lm_best_punct k c hp rest hr
  · exact lm_best_plus rest

/-! ### variables -/

theorem lm_best_varName (c : Char) (t rest : List Char) (hc : isVarHead c = true)
    (ht : t.all isVarTail = true) (hr : lm_Next (isWsChar ·) rest) :
    bestOf (candidates (('$' :: c :: t) ++ rest)) = some (some .varName, ('$' :: c :: t).length) := by
  have hv : mVarName ('$' :: c :: (t ++ rest)) = ('$' :: c :: t).length := by
    simp only [mVarName, hc, if_true, lm_spanLen_all isVarTail (by decide) t rest ht hr, List.length_cons]; omega
  refine lm_best_no_literal (· == '$') (by decide) '$' (c :: (t ++ rest)) rfl (by decide) ⟨by decide, by decide⟩ _ _ ?_
  simp (decide := true) only [lm_patterns_first, hv, reduceIte, lm_bestOf_cons_zero]
  exact lm_bestOf_head _ _ _ (Nat.succ_ne_zero _) (by simp)

/-! ### strings -/

theorem lm_strBody (body rest : List Char)
    (hb : body.all (fun c => c != '"' && c != '\\' && c != '\n' && c != '\r') = true) :
    strBody (body ++ '"' :: rest) = some (body.length + 1) := by
  induction body with
  | nil => simp [strBody]
  | cons a b ih =>
    simp only [List.all_cons, Bool.and_eq_true, bne_iff_ne, ne_eq] at hb
    obtain ⟨⟨⟨⟨h1, h2⟩, h3⟩, h4⟩, hb⟩ := hb
    rw [List.cons_append, lx_strBody_step a _ h1 (by simp [isNlChar, h3, h4]) (fun e => absurd e h2), ih hb]
    rfl

theorem lm_best_string (body rest : List Char)
    (hb : body.all (fun c => c != '"' && c != '\\' && c != '\n' && c != '\r') = true) :
    bestOf (candidates (('"' :: body ++ ['"']) ++ rest)) = some (some .string, ('"' :: body ++ ['"']).length) := by
  have hv : mString ('"' :: (body ++ '"' :: rest)) = ('"' :: body ++ ['"']).length := by
    simp [mString, lm_strBody body rest hb]
  have e : ('"' :: body ++ ['"']) ++ rest = '"' :: (body ++ '"' :: rest) := by simp
  rw [e]
  refine lm_best_no_literal (· == '"') (by decide) '"' _ rfl (by decide) ⟨by decide, by decide⟩ _ _ ?_
  simp (decide := true) only [lm_patterns_first, hv, reduceIte, lm_bestOf_cons_zero]
  exact lm_bestOf_head _ _ _ (Nat.succ_ne_zero _) (by simp)

/-! ### accounts -/

theorem lm_acctTail_ws (fuel : Nat) (rest : List Char) (hr : lm_Next (isWsChar ·) rest) : acctTail fuel rest = 0 := by
  unfold acctTail
  split
  · exact absurd (show isWsChar ':' = true from hr) (by decide)
  · rfl

theorem lm_acctOk_true (t : List Char) (h : acctOk false t = true) : acctOk true t = true := by
  cases t with
  | nil => cases h
  | cons a t =>
    unfold acctOk at h ⊢
    split
    · rename_i ha; rwa [if_pos ha] at h
    · rename_i ha
      rw [if_neg ha] at h
      split at h <;> simp at h

/-- `t` is what remains of an account name inside a segment (`acctOk true t`): the run of account characters and then
    `acctTail`, which reads the `:segment`s, take all of `t`; where a segment has to begin (`acctOk false t`) that run
    is not empty -/
theorem lm_acct (rest : List Char) (hr : lm_Next (isWsChar ·) rest) (t : List Char) :
    (acctOk true t = true → ∀ fuel, t.length ≤ fuel →
      spanLen isAcctChar (t ++ rest) + acctTail fuel ((t ++ rest).drop (spanLen isAcctChar (t ++ rest))) = t.length) ∧
    (acctOk false t = true → spanLen isAcctChar (t ++ rest) ≠ 0) := by
  induction t with
  | nil =>
    refine ⟨fun _ fuel _ => ?_, fun h => by simp [acctOk] at h⟩
    simp only [List.nil_append, lm_spanLen_ws isAcctChar (by decide) rest hr, List.drop_zero,
      lm_acctTail_ws fuel rest hr, List.length_nil]
  | cons c t ih =>
    by_cases hc : isAcctChar c = true
    · have hok : ∀ b, acctOk b (c :: t) = acctOk true t := by intro b; simp [acctOk, hc]
      refine ⟨fun h fuel hf => ?_, fun _ => ?_⟩
      · rw [hok] at h
        have := ih.1 h fuel (by simp at hf; omega)
        simp only [List.cons_append, lm_spanLen_succ _ _ _ hc, List.drop_succ_cons, List.length_cons]
        omega
      · simp [lm_spanLen_succ _ _ _ hc]
    · have hc' : isAcctChar c = false := by simpa using hc
      by_cases hcol : c = ':'
      · subst hcol
        refine ⟨fun h fuel hf => ?_, fun h => by simp [acctOk, hc'] at h⟩
        have h' : acctOk false t = true := by simpa [acctOk, hc'] using h
        cases fuel with
        | zero => simp at hf
        | succ f =>
          simp only [List.length_cons, Nat.add_le_add_iff_right] at hf
          have hn := ih.2 h'
          have hrec := ih.1 (by
            cases t with
            | nil => simp [acctOk] at h'
            | cons a t' =>
              by_cases ha : isAcctChar a = true
              · simpa [acctOk, ha] using h'
              · have ha' : isAcctChar a = false := by simpa using ha
                simp [acctOk, ha'] at h') f hf
          simp only [List.cons_append, lm_spanLen_zero _ _ _ hc', List.drop_zero, Nat.zero_add,
            List.length_cons]
          unfold acctTail
          simp only [if_neg hn]
          omega
      · refine ⟨fun h => ?_, fun h => ?_⟩ <;> simp [acctOk, hc', hcol] at h

theorem lm_best_account (t rest : List Char) (ht : acctOk false t = true) (hr : lm_Next (isWsChar ·) rest) :
    bestOf (candidates (('@' :: t) ++ rest)) = some (some .account, ('@' :: t).length) := by
  have h1 := (lm_acct rest hr t).1 (lm_acctOk_true t ht) (t ++ rest).length (by simp)
  have h2 := (lm_acct rest hr t).2 ht
  have hv : mAccount ('@' :: (t ++ rest)) = ('@' :: t).length := by
    simp only [mAccount, if_neg h2, List.length_cons]; omega
  refine lm_best_no_literal (· == '@') (by decide) '@' (t ++ rest) rfl (by decide) ⟨by decide, by decide⟩ _ _ ?_
  simp (decide := true) only [lm_patterns_first, hv, reduceIte, lm_bestOf_cons_zero]
  exact lm_bestOf_head _ _ _ (Nat.succ_ne_zero _) (by simp)

/-! ### assets -/

theorem lm_best_asset (c : Char) (t rest : List Char) (hc : isUpperChar c = true)
    (ht : t.all isAssetChar = true) (hr : lm_Next (isWsChar ·) rest) :
    bestOf (candidates ((c :: t) ++ rest)) = some (some .asset, (c :: t).length) := by
  have hv : mAsset (c :: (t ++ rest)) = (c :: t).length := by
    rw [← List.cons_append]
    exact lm_spanLen_all isAssetChar (by decide) (c :: t) rest (by simp [lm_upper_asset c hc, ht]) hr
  have hne : ∀ k, isUpperChar k = false → c ≠ k := fun k => lm_ne_of hc
  have hl := lm_upper_not_lower c hc
  refine lm_best_no_literal isUpperChar (by decide) c (t ++ rest) hc hl
    (lm_upper_tokStart c hc) _ _ ?_
  simp only [lm_patterns_first, hv, lm_upper_not_digit c hc, hl, lm_upper_asset c hc, hne '"' (by decide),
    hne '-' (by decide), hne '$' (by decide), hne '@' (by decide), hne '+' (by decide), Bool.false_eq_true, or_self,
    if_true, if_false, lm_bestOf_cons_zero]
  exact lm_bestOf_head _ _ _ (Nat.succ_ne_zero _) (by simp)

/-! ### numbers -/

theorem lm_mNumber_digits (c : Char) (t : List Char) (hc : isDigit c = true) :
    mNumber (c :: t) = spanLen isDigit (c :: t) := by
  have hne : c ≠ '-' := lm_ne_of hc (by decide)
  unfold mNumber
  split
  · rename_i heq; exact absurd (List.cons.inj heq).1 hne
  · rfl

theorem lm_mRatio_number (ds rest : List Char) (hd : ds.all isDigit = true) (hr : lm_After rest) :
    mRatio (ds ++ rest) = 0 := by
  rw [lx_mRatio_eq, lm_spanLen_all isDigit (by decide) ds rest hd hr.1, List.drop_left]
  split
  · rfl
  · cases rest with
    | nil => rfl
    | cons c r =>
      obtain ⟨hc, hr⟩ := hr
      rcases lm_ws_cases c hc with rfl | rfl | rfl | rfl
      · simp only [lx_sp, List.drop_succ_cons, List.drop_zero]
        split
        · rename_i r3
          obtain ⟨x, r4, rfl, hx⟩ := hr r3 rfl
          rcases hx with rfl | rfl <;> simp [spanLen, isDigit]
        · rfl
      · rfl
      · rfl
      · rfl

theorem lm_mPercent_number (ds rest : List Char) (hd : ds.all isDigit = true) (hr : lm_Next (isWsChar ·) rest) :
    mPercent (ds ++ rest) = 0 := by
  unfold mPercent
  simp only [lm_spanLen_all isDigit (by decide) ds rest hd hr, List.drop_left]
  split
  · rfl
  · cases rest with
    | nil => rfl
    | cons c r => rcases lm_ws_cases c hr with rfl | rfl | rfl | rfl <;> rfl

theorem lm_best_number_pos (ds rest : List Char) (hne : ds ≠ []) (hd : ds.all isDigit = true)
    (hr : lm_After rest) : bestOf (candidates (ds ++ rest)) = some (some .number, ds.length) := by
  have hb := hr.1
  cases ds with
  | nil => exact absurd rfl hne
  | cons c t =>
    have hc : isDigit c = true := by simp at hd; exact hd.1
    have h1 := lm_mRatio_number (c :: t) rest hd hr
    have h2 := lm_mPercent_number (c :: t) rest hd hb
    have h3 : mNumber (c :: (t ++ rest)) = (c :: t).length := by
      rw [lm_mNumber_digits c _ hc, ← List.cons_append]
      exact lm_spanLen_all isDigit (by decide) (c :: t) rest hd hb
    have h4 : mAsset (c :: (t ++ rest)) = (c :: t).length := by
      rw [← List.cons_append]
      exact lm_spanLen_all isAssetChar (by decide) (c :: t) rest (lm_all_asset _ hd) hb
    rw [List.cons_append] at h1 h2
    refine lm_best_no_literal isDigit (by decide) c (t ++ rest) hc (lm_digit_not_lower c hc)
      (lm_digit_tokStart c hc) _ _ ?_
    rw [lm_patterns_digit c _ hc, h1, h2, h3, h4]
    simp only [lm_bestOf_cons_zero]
    exact lm_bestOf_head _ _ _ (Nat.succ_ne_zero _) (by simp)

theorem lm_best_number_neg (ds rest : List Char) (hne : ds ≠ []) (hd : ds.all isDigit = true)
    (hr : lm_Next (isWsChar ·) rest) :
    bestOf (candidates (('-' :: ds) ++ rest)) = some (some .number, ('-' :: ds).length) := by
  have hpos : 0 < ds.length := List.length_pos_iff.mpr hne
  have hv : mNumber ('-' :: (ds ++ rest)) = ('-' :: ds).length := by
    simp only [mNumber, lm_spanLen_all isDigit (by decide) ds rest hd hr]
    exact if_neg (Nat.ne_of_gt hpos)
  refine lm_best_pattern '-' (ds ++ rest) _ _ ⟨by decide, by decide⟩
    (lx_forall_literals _ _ (fun p hp => ?_) (fun p hp => ?_)) ?_
  · rw [lm_kw_zero p hp '-' _ (by decide)]
    exact Nat.succ_pos _
  · exact Nat.lt_of_le_of_lt (lx_mLiteral_le [p.2] _) (Nat.succ_lt_succ hpos)
  · simp (decide := true) only [lm_patterns_first, hv, reduceIte, lm_bestOf_cons_zero]
    exact lm_bestOf_head _ _ _ (Nat.succ_ne_zero _) (by simp)

/-! ### ratios -/

theorem lm_best_ratio (a b rest : List Char) (ha : a ≠ []) (hb : b ≠ []) (had : a.all isDigit = true)
    (hbd : b.all isDigit = true) (hr : lm_Next (isWsChar ·) rest) :
    bestOf (candidates ((a ++ '/' :: b) ++ rest)) = some (some .ratio, (a ++ '/' :: b).length) := by
  obtain ⟨c, t, rfl⟩ := List.exists_cons_of_ne_nil ha
  obtain ⟨d, u, rfl⟩ := List.exists_cons_of_ne_nil hb
  have hc : isDigit c = true := by simp at had; exact had.1
  have hd : isDigit d = true := by simp at hbd; exact hbd.1
  have hA : spanLen isDigit ((c :: t) ++ '/' :: ((d :: u) ++ rest)) = (c :: t).length := by
    rw [lm_spanLen_append isDigit _ _ had, lm_spanLen_zero isDigit '/' _ (by decide)]; rfl
  have hB : spanLen isDigit ((d :: u) ++ rest) = (d :: u).length := lm_spanLen_all isDigit (by decide) _ rest hbd hr
  have hsp : lx_sp ((d :: u) ++ rest) = 0 := by
    unfold lx_sp
    split
    · rename_i heq
      exact absurd (List.cons.inj heq).1 (lm_ne_of hd (by decide))
    · rfl
  have h1 : mRatio ((c :: t) ++ '/' :: ((d :: u) ++ rest)) = (c :: t).length + 1 + (d :: u).length := by
    rw [lx_mRatio_eq, hA, List.drop_left, if_neg (Nat.ne_of_gt (List.length_pos_iff.mpr ha))]
    show (if spanLen isDigit (((d :: u) ++ rest).drop (lx_sp ((d :: u) ++ rest))) = 0 then 0 else _) = _
    rw [hsp, List.drop_zero, hB, if_neg (Nat.ne_of_gt (List.length_pos_iff.mpr hb))]
    rfl
  have h2 : mPercent ((c :: t) ++ '/' :: ((d :: u) ++ rest)) = 0 := by
    unfold mPercent
    simp only [hA, List.drop_left]
    split <;> rfl
  have h3 : mNumber ((c :: t) ++ '/' :: ((d :: u) ++ rest)) = (c :: t).length := by
    rw [List.cons_append, lm_mNumber_digits c _ hc, ← List.cons_append, hA]
  have h4 : mAsset (((c :: t) ++ '/' :: (d :: u)) ++ rest) = ((c :: t) ++ '/' :: (d :: u)).length := by
    refine lm_spanLen_all isAssetChar (by decide) _ rest ?_ hr
    rw [List.all_append, lm_all_asset _ had, List.all_cons, lm_all_asset _ hbd]
    rfl
  have e : ((c :: t) ++ '/' :: (d :: u)) ++ rest = (c :: t) ++ '/' :: ((d :: u) ++ rest) := by simp
  have hlen : ((c :: t) ++ '/' :: (d :: u)).length = (c :: t).length + 1 + (d :: u).length := by
    simp only [List.length_append, List.length_cons]; omega
  rw [e, hlen] at h4
  rw [e, hlen]
  rw [List.cons_append] at h1 h2 h3 h4 ⊢
  refine lm_best_no_literal isDigit (by decide) c _ hc (lm_digit_not_lower c hc)
    (lm_digit_tokStart c hc) _ _ ?_
  rw [lm_patterns_digit c _ hc, h1, h2, h3, h4]
  refine lm_bestOf_head _ _ _ (Nat.succ_ne_zero _) ?_
  simp
  omega

/-! ### every kind -/

theorem lm_fixed_head (k : TK) (txt : List Char) (h : fixedText k = some txt) :
    txt ≠ [] ∧ lm_Next lm_tokStart txt := by
  rcases lm_fixed_cases k txt h with hp | ⟨c, rfl, hp⟩ | ⟨-, rfl⟩
  · obtain ⟨c, t, htxt, hc, -⟩ := lx_kw_shape _ hp
    rw [show txt = c :: t from htxt]
    exact ⟨List.cons_ne_nil _ _, lm_lower_tokStart c hc⟩
  · exact ⟨List.cons_ne_nil _ _, (lm_punct_other _ hp).1, (lm_punct_other _ hp).2.1⟩
  · exact ⟨List.cons_ne_nil _ _, by decide, by decide⟩

theorem lm_lexable (s : Shape) (hs : s.Lexable) :
    (s.2 ≠ [] ∧ lm_Next lm_tokStart s.2) ∧
    ∀ rest, lm_After rest → bestOf (candidates (s.2 ++ rest)) = some (some s.1, s.2.length) := by
  obtain ⟨k, txt⟩ := s
  cases k <;> simp only [Shape.Lexable] at hs
  case ident =>
    obtain ⟨⟨c, t, rfl, hc, ht⟩, hnk⟩ := hs
    exact ⟨⟨List.cons_ne_nil _ _, lm_lower_tokStart c hc⟩,
      fun rest hr => lm_best_ident c t rest hc ht hnk hr.1⟩
  case varName =>
    obtain ⟨c, t, rfl, hc, ht⟩ := hs
    exact ⟨⟨List.cons_ne_nil _ _, by decide, by decide⟩, fun rest hr => lm_best_varName c t rest hc ht hr.1⟩
  case account =>
    obtain ⟨t, rfl, ht⟩ := hs
    exact ⟨⟨List.cons_ne_nil _ _, by decide, by decide⟩, fun rest hr => lm_best_account t rest ht hr.1⟩
  case asset =>
    obtain ⟨c, t, rfl, hc, ht⟩ := hs
    exact ⟨⟨List.cons_ne_nil _ _, lm_upper_tokStart c hc⟩,
      fun rest hr => lm_best_asset c t rest hc ht hr.1⟩
  case number =>
    rcases hs with ⟨ds, rfl, hne, hd⟩ | ⟨ds, rfl, hne, hd⟩
    · exact ⟨⟨hne, lm_Next_of_all lm_digit_tokStart hd⟩, fun rest hr => lm_best_number_pos _ rest hne hd hr⟩
    · exact ⟨⟨List.cons_ne_nil _ _, by decide, by decide⟩, fun rest hr => lm_best_number_neg ds rest hne hd hr.1⟩
  case ratio =>
    obtain ⟨a, b, rfl, ha, hb', had, hbd⟩ := hs
    exact ⟨⟨by simp, lm_Next_append _ ha (lm_Next_of_all lm_digit_tokStart had)⟩,
      fun rest hr => lm_best_ratio a b rest ha hb' had hbd hr.1⟩
  case string =>
    obtain ⟨body, rfl, hbody⟩ := hs
    exact ⟨⟨List.cons_ne_nil _ _, by decide, by decide⟩, fun rest _ => lm_best_string body rest hbody⟩
  all_goals exact ⟨lm_fixed_head _ _ hs, fun rest hr => lm_best_fixed _ _ hs rest hr.1⟩

theorem lm_lexable_head (s : Shape) (hs : s.Lexable) : s.2 ≠ [] ∧ lm_Next lm_tokStart s.2 := (lm_lexable s hs).1

theorem lm_best_of_lexable (s : Shape) (hs : s.Lexable) (rest : List Char) (hr : lm_After rest) :
    bestOf (candidates (s.2 ++ rest)) = some (some s.1, s.2.length) := (lm_lexable s hs).2 rest hr

/-! ### the skipped rules -/

theorem lm_best_skip (q : Char → Bool) (hq : ∀ p ∈ lx_puncts, q p.2 = false) (c : Char) (t : List Char)
    (hc : q c = true) (hl : isLowerChar c = false) (n : Nat) (hn : n ≠ 0) (hmem : (none, n) ∈ lx_skips (c :: t))
    (hs : ∀ y ∈ lx_skips (c :: t), y.2 ≤ n) (hp : ∀ y ∈ lx_patterns (c :: t), y.2 ≤ n) :
    bestOf (candidates (c :: t)) = some (none, n) := by
  rw [lx_candidates_eq]
  refine lm_bestOf_unique _ _ _ _ hn hmem (fun y hy => ?_) (fun y hy => ?_)
  · have h1 : y.1 = none := by
      simp only [lx_skips, List.mem_cons, List.not_mem_nil, or_false] at hy
      rcases hy with rfl | rfl | rfl <;> rfl
    rcases Nat.lt_or_eq_of_le (hs y hy) with h | h
    · exact Or.inr h
    · exact Or.inl (Prod.ext h1 h)
  · rcases List.mem_append.mp hy with hy | hy
    · exact Nat.le_of_lt (lm_literals_lt q hq c t hc hl n hn y hy)
    · exact hp y hy

theorem lm_patterns_slash (t : List Char) :
    lx_patterns ('/' :: t) =
      [(some .ratio, 0), (some .percent, 0), (some .string, 0), (some .ident, 0), (some .number, 0),
       (some .varName, 0), (some .account, 0), (some .asset, mAsset ('/' :: t)), (some .plus, 0)] := by
  simp (decide := true) only [lm_patterns_first, reduceIte]

end NS
