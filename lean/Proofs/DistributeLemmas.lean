/-
  Proofs/DistributeLemmas.lean — for property C05 (ordered / allotted distribution):
  the interpreter's destination functions refine `distribute`.
-/
import Spec.Distribute
import Proofs.DrawBoundLemmas

namespace NS

def appendNZ (rcv : Receivers) : Outcome Pulls → Outcome Receivers
  | .ok l => .ok (rcv ++ nonzero l)
  | .err e => .err e
  | .panic s => .panic s

def appendNZ2 (rcv : Receivers) : Outcome (Int × Pulls) → Outcome (Int × Receivers)
  | .ok (left, l) => .ok (left, rcv ++ nonzero l)
  | .err e => .err e
  | .panic s => .panic s

theorem pushReceiver_eq (rcv : Receivers) (a : String) (m : Int) :
    pushReceiver rcv a m = rcv ++ nonzero [(a, m)] :=
  pushSender_eq rcv a m

section
variable {vars : Vars} {asset : String}

theorem resolveD_inorder_ok {x : Range} {clauses : List DestClause} {remaining : KoD} {r : RDest}
    (h : resolveD vars asset (.inorder x clauses remaining) = .ok r) :
    ∃ caps tos rest, resolveClauses vars asset clauses = .ok (caps, tos) ∧
      resolveKoD vars asset remaining = .ok rest ∧ r = .inorder caps tos rest := by
  rw [resolveD] at h
  split at h <;> try cases h
  split at h <;> cases h
  exact ⟨_, _, _, ‹_›, ‹_›, rfl⟩

theorem resolveD_allotment_ok {x : Range} {items : List DestItem} {r : RDest}
    (h : resolveD vars asset (.allotment x items) = .ok r) :
    ∃ qs tos, evalAllotItems vars (items.map DestItem.allot) = .ok qs ∧
      resolveDItems vars asset items = .ok tos ∧ r = .allot qs tos := by
  rw [resolveD] at h
  split at h <;> try cases h
  split at h <;> cases h
  exact ⟨_, _, ‹_›, ‹_›, rfl⟩

theorem resolveClauses_cons_ok {x : Range} {cap : Expr} {kd : KoD} {rest : List DestClause}
    {caps : List Int} {tos : List RKoD}
    (h : resolveClauses vars asset (.mk x cap kd :: rest) = .ok (caps, tos)) :
    ∃ c t cs ts, evalAs vars cap (expectMonetaryOfAsset asset) = .ok c ∧
      resolveKoD vars asset kd = .ok t ∧ resolveClauses vars asset rest = .ok (cs, ts) ∧
      caps = c :: cs ∧ tos = t :: ts := by
  rw [resolveClauses] at h
  split at h <;> try cases h
  split at h <;> try cases h
  split at h <;> cases h
  exact ⟨_, _, _, _, ‹_›, ‹_›, ‹_›, rfl, rfl⟩

theorem resolveDItems_cons_ok {x : Range} {q : AllotVal} {kd : KoD} {rest : List DestItem}
    {tos : List RKoD} (h : resolveDItems vars asset (.mk x q kd :: rest) = .ok tos) :
    ∃ t ts, resolveKoD vars asset kd = .ok t ∧ resolveDItems vars asset rest = .ok ts ∧
      tos = t :: ts := by
  rw [resolveDItems] at h
  split at h <;> try cases h
  split at h <;> cases h
  exact ⟨_, _, ‹_›, ‹_›, rfl⟩

end

theorem resolveDItems_length (vars : Vars) (asset : String) (items : List DestItem) (tos : List RKoD)
    (h : resolveDItems vars asset items = .ok tos) : tos.length = items.length := by
  induction items generalizing tos with
  | nil => cases h; rfl
  | cons it rest ih =>
    obtain ⟨_, _, kd⟩ := it
    obtain ⟨t, ts, -, hrest, rfl⟩ := resolveDItems_cons_ok h
    simp [ih _ hrest]

theorem distribute_allot_ok {qs : List (Option Rat)} {tos : List RKoD} {n : Int} {l : Pulls}
    (h : distribute (.allot qs tos) n = .ok l) :
    ∃ parts, allotOf n qs = .ok parts ∧ distAllot tos parts = .ok l := by
  rw [distribute] at h
  split at h <;> try cases h
  exact ⟨_, ‹_›, h⟩

theorem distribute_inorder_ok {caps : List Int} {tos : List RKoD} {rest : RKoD} {n : Int} {l : Pulls}
    (h : distribute (.inorder caps tos rest) n = .ok l) :
    ∃ left l1, distClauses caps tos n = .ok (left, l1) ∧
      (left = 0 ∧ l = l1 ∨ ∃ l2, distKoD rest left = .ok l2 ∧ l = l1 ++ l2) := by
  rw [distribute] at h
  split at h <;> try cases h
  refine ⟨_, _, ‹_›, ?_⟩
  split at h
  · cases h
    exact .inl ⟨‹_›, rfl⟩
  · split at h <;> cases h
    exact .inr ⟨_, ‹_›, rfl⟩

theorem distAllot_cons_ok {t : RKoD} {ts : List RKoD} {p : Int} {ps : List Int} {l : Pulls}
    (h : distAllot (t :: ts) (p :: ps) = .ok l) :
    ∃ l1 l2, distKoD t p = .ok l1 ∧ distAllot ts ps = .ok l2 ∧ l = l1 ++ l2 := by
  rw [distAllot] at h
  split at h <;> try cases h
  split at h <;> cases h
  exact ⟨_, _, ‹_›, ‹_›, rfl⟩

theorem distClauses_cons_ok {c : Int} {cs : List Int} {t : RKoD} {ts : List RKoD} {left left' : Int}
    {l : Pulls} (h : distClauses (c :: cs) (t :: ts) left = .ok (left', l)) :
    (left = 0 ∧ left' = 0 ∧ l = []) ∨
    (min (max 0 c) left = 0 ∧ distClauses cs ts left = .ok (left', l)) ∨
    ∃ l1 l2, distKoD t (min (max 0 c) left) = .ok l1 ∧
      distClauses cs ts (left - min (max 0 c) left) = .ok (left', l2) ∧ l = l1 ++ l2 := by
  rw [distClauses] at h
  split at h
  · cases h
    exact .inl ⟨‹_›, ‹_›, rfl⟩
  split at h
  · exact .inr (.inl ⟨‹_›, h⟩)
  split at h <;> try cases h
  split at h <;> cases h
  exact .inr (.inr ⟨_, _, ‹_›, ‹_›, rfl⟩)

mutual
  theorem receiveFrom_refines (env : Env) : (dst : Dest) → (r : RDest) → (n : Int) → (rcv : Receivers) →
      resolveD env.vars env.asset dst = .ok r →
      receiveFrom env dst n rcv = appendNZ rcv (distribute r n)
    | .nil, r, n, rcv, hr => by cases hr
    | .account e, r, n, rcv, hr => by
        simp only [resolveD] at hr
        split at hr <;> cases hr
        rename_i a ha
        simp only [receiveFrom, ha, distribute, appendNZ, pushReceiver_eq]
    | .inorder _ clauses remaining, r, n, rcv, hr => by
        obtain ⟨caps, tos, rest, hcl, hrest, rfl⟩ := resolveD_inorder_ok hr
        simp only [receiveFrom, distribute, receiveClauses_refines env clauses caps tos n rcv hcl]
        cases distClauses caps tos n with
        | err e | panic s => rfl
        | ok p =>
          obtain ⟨left, l⟩ := p
          simp only [appendNZ2]
          split
          · rfl
          · rw [receiveKoD_refines env remaining rest left _ hrest]
            cases distKoD rest left <;> simp [appendNZ, nonzero_append]
    | .allotment _ items, r, n, rcv, hr => by
        obtain ⟨qs, tos, hqs, htos, rfl⟩ := resolveD_allotment_ok hr
        simp only [receiveFrom, distribute, makeAllotment_eq, hqs, Outcome.ok_bind]
        cases ha : allotOf n qs with
        | err e | panic s => rfl
        | ok parts =>
          apply receiveAllotItems_refines env items tos parts rcv htos
          rw [allotOf_length n qs parts ha, evalAllotItems_length _ _ _ hqs, List.length_map]

  theorem receiveKoD_refines (env : Env) : (k : KoD) → (t : RKoD) → (n : Int) → (rcv : Receivers) →
      resolveKoD env.vars env.asset k = .ok t →
      receiveKoD env k n rcv = appendNZ rcv (distKoD t n)
    | .nil, t, n, rcv, hr => by cases hr
    | .kept _, t, n, rcv, hr => by
        cases hr
        simp only [receiveKoD, distKoD, appendNZ, pushReceiver_eq]
    | .to d, t, n, rcv, hr => by
        simp only [resolveKoD] at hr
        split at hr <;> cases hr
        rw [receiveKoD, distKoD]
        exact receiveFrom_refines env d _ n rcv ‹_›

  theorem receiveClauses_refines (env : Env) : (clauses : List DestClause) → (caps : List Int) →
      (tos : List RKoD) → (left : Int) → (rcv : Receivers) →
      resolveClauses env.vars env.asset clauses = .ok (caps, tos) →
      receiveClauses env clauses left rcv = appendNZ2 rcv (distClauses caps tos left)
    | [], caps, tos, left, rcv, hr => by
        cases hr
        simp [receiveClauses, distClauses, appendNZ2]
    | (.mk _ cap kd) :: rest, caps, tos, left, rcv, hr => by
        obtain ⟨c, t, cs, ts, hc, ht, hrest, rfl, rfl⟩ := resolveClauses_cons_ok hr
        simp only [receiveClauses, distClauses, hc]
        split
        · simp [appendNZ2]
        split
        · exact receiveClauses_refines env rest cs ts left rcv hrest
        rw [receiveKoD_refines env kd t _ rcv ht]
        cases distKoD t (min (max 0 c) left) with
        | err e | panic s => rfl
        | ok l1 =>
          simp only [appendNZ]
          rw [receiveClauses_refines env rest cs ts _ _ hrest]
          cases distClauses cs ts (left - min (max 0 c) left) <;> simp [appendNZ2, nonzero_append]

  theorem receiveAllotItems_refines (env : Env) : (items : List DestItem) → (tos : List RKoD) →
      (parts : List Int) → (rcv : Receivers) →
      resolveDItems env.vars env.asset items = .ok tos → items.length ≤ parts.length →
      receiveAllotItems env items parts rcv = appendNZ rcv (distAllot tos parts)
    | [], tos, parts, rcv, hr, hlen => by
        cases hr
        simp [receiveAllotItems, distAllot, appendNZ]
    | (.mk _ _ kd) :: rest, tos, [], rcv, hr, hlen => by simp at hlen
    | (.mk _ _ kd) :: rest, tos, p :: ps, rcv, hr, hlen => by
        obtain ⟨t, ts, ht, hrest, rfl⟩ := resolveDItems_cons_ok hr
        rw [receiveAllotItems, distAllot, receiveKoD_refines env kd t p rcv ht]
        cases distKoD t p with
        | err e | panic s => rfl
        | ok l1 =>
          simp only [appendNZ]
          rw [receiveAllotItems_refines env rest ts ps _ hrest (by simpa using hlen)]
          cases distAllot ts ps <;> simp [appendNZ, nonzero_append]
end

end NS
