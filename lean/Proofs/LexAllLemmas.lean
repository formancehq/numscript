/-
  The lexer with error recovery, `lexAll` (Model/LexAll.lean): it answers what `lex` answers whenever it reports no
  error, and everything it reports lies inside the text: the loop is only ever at a position reached after a prefix of
  the text, which is an existing line and a column not beyond that line's end.
-/
import Model.LexAll
import Proofs.LexLemmas

namespace NS

theorem la_lexAllLoop_zero (cs : List Char) (l c : Nat) : lexAllLoop 0 cs l c = ([], []) := rfl
theorem la_lexAllLoop_nil (f l c : Nat) : lexAllLoop (f + 1) [] l c = ([], []) := rfl

attribute [local irreducible] bestOf candidates in
theorem la_lexAllLoop_cons (f l c : Nat) (a : Char) (cs : List Char) : lexAllLoop (f + 1) (a :: cs) l c =
      match bestOf (candidates (a :: cs)) with
      | some (k, n) =>
          match k with
          | none => lexAllLoop f ((a :: cs).drop n) (advance l c ((a :: cs).take n)).1 (advance l c ((a :: cs).take n)).2
          | some kind =>
              ({ kind := kind, text := (a :: cs).take n, line := l, col := c } ::
                (lexAllLoop f ((a :: cs).drop n) (advance l c ((a :: cs).take n)).1 (advance l c ((a :: cs).take n)).2).1,
               (lexAllLoop f ((a :: cs).drop n) (advance l c ((a :: cs).take n)).1 (advance l c ((a :: cs).take n)).2).2)
      | none =>
          ((lexAllLoop f ((a :: cs).drop (failLen (a :: cs) + 1))
              (advance l c ((a :: cs).take (failLen (a :: cs) + 1))).1
              (advance l c ((a :: cs).take (failLen (a :: cs) + 1))).2).1,
           { line := l, col := c, text := (a :: cs).take (failLen (a :: cs) + 1) } ::
           (lexAllLoop f ((a :: cs).drop (failLen (a :: cs) + 1))
              (advance l c ((a :: cs).take (failLen (a :: cs) + 1))).1
              (advance l c ((a :: cs).take (failLen (a :: cs) + 1))).2).2) := by
  rfl

theorem la_loop_eq (fuel : Nat) : ∀ (cs : List Char) (l c : Nat), cs.length < fuel →
    lexLoop fuel cs l c =
      if (lexAllLoop fuel cs l c).2 = [] then some (lexAllLoop fuel cs l c).1 else none := by
  induction fuel with
  | zero => intro cs l c h; omega
  | succ f ih =>
    intro cs l c hlen
    cases cs with
    | nil => rw [lx_lexLoop_nil, la_lexAllLoop_nil]; rfl
    | cons a cs =>
      rw [lx_lexLoop_cons, la_lexAllLoop_cons]
      generalize hb : bestOf (candidates (a :: cs)) = b
      cases b with
      | none => rfl
      | some kn =>
        obtain ⟨k, n⟩ := kn
        have hle := lx_drop_le a cs n (lx_bestOf_mem _ _ _ hb).2
        simp only [ih _ _ _ (Nat.lt_of_le_of_lt hle (Nat.lt_of_succ_lt_succ hlen))]
        obtain ⟨r1, r2⟩ := lexAllLoop f ((a :: cs).drop n) (advance l c ((a :: cs).take n)).1
          (advance l c ((a :: cs).take n)).2
        cases k <;> cases r2 <;> rfl

theorem la_go_head (cur : Nat) (suf : List Char) :
    ∃ len, (lineLengths.go cur suf)[0]? = some len ∧ cur ≤ len := by
  induction suf generalizing cur with
  | nil => exact ⟨cur, by simp [lineLengths.go]⟩
  | cons x t ih =>
    unfold lineLengths.go
    split
    · exact ⟨cur, by simp⟩
    · obtain ⟨len, h1, h2⟩ := ih (cur + 1)
      exact ⟨len, h1, by omega⟩

theorem la_go_prefix (pre suf : List Char) (cur : Nat) :
    ∃ len, (lineLengths.go cur (pre ++ suf))[(advance 0 cur pre).1]? = some len ∧
      (advance 0 cur pre).2 ≤ len := by
  induction pre generalizing cur with
  | nil => simpa [advance] using la_go_head cur suf
  | cons x t ih =>
    simp only [List.cons_append]
    unfold lineLengths.go advance
    split
    · obtain ⟨len, h1, h2⟩ := ih 0
      rw [lx_advance_line]
      exact ⟨len, by simpa using h1, h2⟩
    · exact ih (cur + 1)

theorem la_prefix_in_text (pre suf : List Char) :
    PosInText (pre ++ suf) ⟨(advance 0 0 pre).1, (advance 0 0 pre).2⟩ :=
  la_go_prefix pre suf 0

theorem la_loop_inv (src : List Char) (fuel : Nat) : ∀ (pre rest : List Char) (line col : Nat),
    pre ++ rest = src → advance 0 0 pre = (line, col) →
    (∀ t ∈ (lexAllLoop fuel rest line col).1,
      PosInText src ⟨t.line, t.col⟩ ∧ PosInText src ⟨t.line, t.col + t.text.length⟩ ∧ t.text ≠ []) ∧
    (∀ e ∈ (lexAllLoop fuel rest line col).2, PosInText src ⟨e.line, e.col⟩ ∧ e.text ≠ []) := by
  induction fuel with
  | zero => intro pre rest line col _ _; simp [la_lexAllLoop_zero]
  | succ f ih =>
    intro pre rest line col hsrc hadv
    cases rest with
    | nil => simp [la_lexAllLoop_nil]
    | cons a cs =>
      have hhere : PosInText src ⟨line, col⟩ := by
        have := la_prefix_in_text pre (a :: cs)
        rwa [hsrc, hadv] at this
      rw [la_lexAllLoop_cons]
      generalize hb : bestOf (candidates (a :: cs)) = b
      cases b with
      | none =>
        simp only
        have hrec := ih (pre ++ (a :: cs).take (failLen (a :: cs) + 1))
          ((a :: cs).drop (failLen (a :: cs) + 1))
          (advance line col ((a :: cs).take (failLen (a :: cs) + 1))).1
          (advance line col ((a :: cs).take (failLen (a :: cs) + 1))).2
          (by rw [List.append_assoc, List.take_append_drop]; exact hsrc)
          (by rw [lx_advance_append, hadv])
        refine ⟨hrec.1, ?_⟩
        intro e he
        rcases List.mem_cons.mp he with rfl | he
        · exact ⟨hhere, by simp⟩
        · exact hrec.2 e he
      | some kn =>
        obtain ⟨k, n⟩ := kn
        have hrec := ih (pre ++ (a :: cs).take n) ((a :: cs).drop n)
          (advance line col ((a :: cs).take n)).1 (advance line col ((a :: cs).take n)).2
          (by rw [List.append_assoc, List.take_append_drop]; exact hsrc)
          (by rw [lx_advance_append, hadv])
        cases k with
        | none => exact hrec
        | some kind =>
          simp only
          refine ⟨?_, hrec.2⟩
          intro t ht
          rcases List.mem_cons.mp ht with rfl | ht
          · obtain ⟨hn, hclean⟩ := lx_best_clean _ _ _ hb
            refine ⟨hhere, ?_, ?_⟩
            · have := la_prefix_in_text (pre ++ (a :: cs).take n) ((a :: cs).drop n)
              rwa [List.append_assoc, List.take_append_drop, hsrc, lx_advance_append, hadv,
                lx_advance_clean _ line col hclean] at this
            · exact lx_take_ne_nil a cs n hn
          · exact hrec.1 t ht

end NS
