/-
  The parser with one unit of fuel unfolded: one equation per parser function, in bind form.
  Everything proved about the parser rewrites with these equations and unfolds no parser function
  by name.  Only where a parser is applied to `[]` or to fuel `0` and fails do the proofs let Lean
  evaluate it (`cases h` on `h : pExpr (f + 1) [] = some _`).
-/
import Model.Parse

namespace NS

theorem pt_expect_eq (k : TK) (t : Tok) (r : List Tok) :
    expect k (t :: r) = if t.kind = k then some (t, r) else none := rfl

theorem pt_expect_some {k : TK} {ts : List Tok} {t : Tok} {rest : List Tok}
    (h : expect k ts = some (t, rest)) : ts = t :: rest ∧ t.kind = k := by
  cases ts with
  | nil => cases h
  | cons a as =>
    simp only [expect] at h
    split at h
    · cases h; exact ⟨rfl, by assumption⟩
    · cases h

theorem pt_portionExpr_some {t : Tok} {e : Expr} (h : portionExpr t = some e) :
    (t.kind = .ratio ∨ t.kind = .percent) ∧ ∃ n d, e = .ratio (rangeOf t t) n d := by
  simp only [portionExpr] at h
  split at h
  · split at h <;> cases h
    exact ⟨.inl ‹_›, _, _, rfl⟩
  · split at h
    · split at h <;> cases h
      exact ⟨.inr ‹_›, _, _, rfl⟩
    · cases h

theorem pt_allotOfTok_some {t : Tok} {av : AllotVal} (h : allotOfTok t = some av) :
    (t.kind = .kwRemaining ∧ av = .remaining (rangeOf t t)) ∨
    (t.kind = .varName ∧ av = .portion (.var (rangeOf t t) (tokString t.text.tail))) ∨
    ((t.kind = .ratio ∨ t.kind = .percent) ∧ ∃ n d, av = .portion (.ratio (rangeOf t t) n d)) := by
  simp only [allotOfTok] at h
  split at h
  · cases h; exact .inl ⟨‹_›, rfl⟩
  · split at h
    · cases h; exact .inr (.inl ⟨‹_›, rfl⟩)
    · obtain ⟨e, he, rfl⟩ := Option.map_eq_some_iff.1 h
      obtain ⟨hk, n, d, rfl⟩ := pt_portionExpr_some he
      exact .inr (.inr ⟨hk, n, d, rfl⟩)

/-- the two tokens after `{` that make a source an allotment -/
def pt_allotAhead : List Tok → Bool
  | a :: fr :: _ => isAllotHead a.kind && fr.kind = .kwFrom
  | _ => false

def pt_allotNext : List Tok → Bool
  | nx :: _ => isAllotHead nx.kind
  | [] => false

theorem pt_expr_eq (f : Nat) (t : Tok) (r : List Tok) :
    pExpr (f + 1) (t :: r) =
      (pPrimary f (t :: r)).bind fun (e, stop, r') => pInfixTail f t e stop r' := by
  rw [pExpr]; split <;> simp only [*, Option.bind_some, Option.bind_none]

theorem pt_primary_eq (f : Nat) (t : Tok) (rest : List Tok) :
    pPrimary (f + 1) (t :: rest) =
      match t.kind with
      | .varName => some (.var (rangeOf t t) (tokString t.text.tail), t, rest)
      | .asset => some (.asset (rangeOf t t) (tokString t.text), t, rest)
      | .string => some (.str (rangeOf t t) (tokString t.text.tail.dropLast), t, rest)
      | .account => some (.account (rangeOf t t) (tokString t.text.tail), t, rest)
      | .number => (numberTokenValue t.text).bind fun v => some (.number (rangeOf t t) v, t, rest)
      | .ratio | .percent => (portionExpr t).bind fun e => some (e, t, rest)
      | .lbracket =>
          (pExpr f rest).bind fun (a, _, r1) =>
            (pExpr f r1).bind fun (b, _, r2) =>
              (expect .rbracket r2).bind fun (rb, r3) => some (.monetary (rangeOf t rb) a b, rb, r3)
      | _ => none := by
  rw [pPrimary]; cases t.kind <;> try rfl
  all_goals dsimp only; repeat' split
  all_goals simp only [*, Option.bind_some, Option.bind_none]

theorem pt_infixTail_eq (f : Nat) (first : Tok) (l : Expr) (stop op : Tok) (rest : List Tok) :
    pInfixTail (f + 1) first l stop (op :: rest) =
      if op.kind = .plus ∨ op.kind = .minus then
        (pPrimary f rest).bind fun (r, stop', rest') =>
          pInfixTail f first
            (.infix (rangeOf first stop') (if op.kind = .plus then .plus else .minus) l r) stop' rest'
      else some (l, stop, op :: rest) := by
  rw [pInfixTail]; split
  · split <;> simp only [*, Option.bind_some, Option.bind_none]
  · rfl

theorem pt_argsTail_eq (f : Nat) (ts : List Tok) :
    pArgsTail (f + 1) ts =
      match expect .comma ts with
      | some (_, rest) =>
          (pExpr f rest).bind fun (e, _, rest') =>
            (pArgsTail f rest').bind fun (es, rest'') => some (e :: es, rest'')
      | none => some ([], ts) := by
  rw [pArgsTail]; cases expect .comma ts <;> dsimp only
  repeat' split
  all_goals simp only [*, Option.bind_some, Option.bind_none]

theorem pt_fnCall_eq (f : Nat) (name lp : Tok) (rest : List Tok) :
    pFnCall f (name :: lp :: rest) =
      if (name.kind = .ident ∨ name.kind = .kwOverdraft) ∧ lp.kind = .lparen then
        match expect .rparen rest with
        | some (rp, rest') =>
            some (⟨rangeOf name rp, rangeOf name name, tokString name.text, []⟩, rp, rest')
        | none =>
            (pExpr f rest).bind fun (e, _, r1) =>
              (pArgsTail f r1).bind fun (es, r2) =>
                (expect .rparen r2).bind fun (rp, r3) =>
                  some (⟨rangeOf name rp, rangeOf name name, tokString name.text, e :: es⟩, rp, r3)
      else none := by
  rw [pFnCall]; split
  · cases expect .rparen rest <;> dsimp only
    repeat' split
    all_goals simp only [*, Option.bind_some, Option.bind_none]
  · rfl

theorem pt_source_eq (f : Nat) (t : Tok) (rest : List Tok) :
    pSource (f + 1) (t :: rest) =
      if t.kind = .lbrace then
        if pt_allotAhead rest then
          (pSrcItems f rest).bind fun (items, r1) =>
            (expect .rbrace r1).bind fun (rb, r2) => some (.allotment (rangeOf t rb) items, rb, r2)
        else pSrcInorder f t rest
      else if t.kind = .kwMax then
        (pExpr f rest).bind fun (cap, _, r1) =>
          (expect .kwFrom r1).bind fun (_, r2) =>
            (pSource f r2).bind fun (src, stop, r3) => some (.capped (rangeOf t stop) cap src, stop, r3)
      else
        (pExpr f (t :: rest)).bind fun (addr, stop, r1) =>
          match expect .kwAllowing r1 with
          | none => some (.account addr, stop, r1)
          | some (_, u :: o :: r3) =>
              if u.kind = .kwUnbounded ∧ o.kind = .kwOverdraft then
                some (.overdraft (rangeOf t o) addr none, o, r3)
              else if u.kind = .kwOverdraft then
                (expect .kwUp (o :: r3)).bind fun (_, r4) =>
                  (expect .kwTo r4).bind fun (_, r5) =>
                    (pExpr f r5).bind fun (b, stop', r6) =>
                      some (.overdraft (rangeOf t stop') addr (some b), stop', r6)
              else none
          | some _ => none := by
  simp only [pSource]
  by_cases h1 : t.kind = .lbrace
  · rw [if_pos h1, if_pos h1]
    obtain _ | ⟨a, _ | ⟨fr, tl⟩⟩ := rest <;> try rfl
    dsimp only
    by_cases h : isAllotHead a.kind = true ∧ fr.kind = .kwFrom
    · have : pt_allotAhead (a :: fr :: tl) = true := by simp [pt_allotAhead, h]
      rw [if_pos h, if_pos this]
      repeat' split
      all_goals simp only [*, Option.bind_some, Option.bind_none]
    · have : ¬ pt_allotAhead (a :: fr :: tl) = true := by simpa [pt_allotAhead] using h
      rw [if_neg h, if_neg this]
  · rw [if_neg h1, if_neg h1]
    by_cases h2 : t.kind = .kwMax
    · rw [if_pos h2, if_pos h2]
      repeat' split
      all_goals simp only [*, Option.bind_some, Option.bind_none]
    · rw [if_neg h2, if_neg h2]
      rcases pExpr f (t :: rest) with _ | ⟨addr, s, r1⟩ <;> try rfl
      dsimp only [Option.bind_some]
      rcases expect .kwAllowing r1 with _ | ⟨al, _ | ⟨u, _ | ⟨o, r3⟩⟩⟩ <;> try rfl
      dsimp only
      by_cases h3 : u.kind = .kwUnbounded ∧ o.kind = .kwOverdraft
      · rw [if_pos h3, if_pos h3]
      · rw [if_neg h3, if_neg h3]
        by_cases h4 : u.kind = .kwOverdraft
        · rw [if_pos h4, if_pos h4]
          repeat' split
          all_goals simp only [*, Option.bind_some, Option.bind_none]
        · rw [if_neg h4, if_neg h4]

theorem pt_srcInorder_eq (f : Nat) (lb : Tok) (ts : List Tok) :
    pSrcInorder (f + 1) lb ts =
      (pSources f ts).bind fun (srcs, r1) =>
        (expect .rbrace r1).bind fun (rb, r2) => some (.inorder (rangeOf lb rb) srcs, rb, r2) := by
  rw [pSrcInorder]; repeat' split
  all_goals simp only [*, Option.bind_some, Option.bind_none]

theorem pt_sources_eq (f : Nat) (t : Tok) (rest : List Tok) :
    pSources (f + 1) (t :: rest) =
      if isSourceStart t.kind then
        (pSource f (t :: rest)).bind fun (s, _, r1) =>
          (pSources f r1).bind fun (ss, r2) => some (s :: ss, r2)
      else some ([], t :: rest) := by
  rw [pSources]; split
  · repeat' split
    all_goals simp only [*, Option.bind_some, Option.bind_none]
  · rfl

theorem pt_srcItems_eq (f : Nat) (a : Tok) (rest : List Tok) :
    pSrcItems (f + 1) (a :: rest) =
      (allotOfTok a).bind fun av =>
        (expect .kwFrom rest).bind fun (_, r1) =>
          (pSource f r1).bind fun (src, stop, r2) =>
            if pt_allotNext r2 then
              (pSrcItems f r2).bind fun (items, r3) => some (.mk (rangeOf a stop) av src :: items, r3)
            else some ([.mk (rangeOf a stop) av src], r2) := by
  simp only [pSrcItems]
  rcases allotOfTok a with _ | av <;> try rfl
  rcases expect .kwFrom rest with _ | ⟨fr, r1⟩ <;> try rfl
  dsimp only [Option.bind_some]
  rcases pSource f r1 with _ | ⟨src, s, _ | ⟨nx, r2⟩⟩ <;> try rfl
  dsimp only [Option.bind_some]
  rw [show pt_allotNext (nx :: _) = isAllotHead nx.kind from rfl]
  by_cases h : isAllotHead nx.kind = true
  · rw [if_pos h, if_pos h]
    split <;> simp only [*, Option.bind_some, Option.bind_none]
  · rw [if_neg h, if_neg h]

theorem pt_dest_eq (f : Nat) (t : Tok) (rest : List Tok) :
    pDest (f + 1) (t :: rest) =
      if t.kind = .lbrace then
        match rest with
        | a :: _ =>
            if a.kind = .kwMax then
              (pClauses f rest).bind fun (clauses, r1) =>
                (expect .kwRemaining r1).bind fun (_, r2) =>
                  (pKoD f r2).bind fun (k, _, r3) =>
                    (expect .rbrace r3).bind fun (rb, r4) =>
                      some (.inorder (rangeOf t rb) clauses k, rb, r4)
            else if isAllotHead a.kind then
              (pDstItems f rest).bind fun (items, r1) =>
                (expect .rbrace r1).bind fun (rb, r2) => some (.allotment (rangeOf t rb) items, rb, r2)
            else none
        | [] => none
      else (pExpr f (t :: rest)).bind fun (e, stop, r1) => some (.account e, stop, r1) := by
  simp only [pDest]
  by_cases h1 : t.kind = .lbrace
  · rw [if_pos h1, if_pos h1]
    obtain _ | ⟨a, tl⟩ := rest <;> try rfl
    dsimp only
    by_cases h2 : a.kind = .kwMax
    · rw [if_pos h2, if_pos h2]
      repeat' split
      all_goals simp only [*, Option.bind_some, Option.bind_none]
    · rw [if_neg h2, if_neg h2]
      by_cases h3 : isAllotHead a.kind = true
      · rw [if_pos h3, if_pos h3]
        repeat' split
        all_goals simp only [*, Option.bind_some, Option.bind_none]
      · rw [if_neg h3, if_neg h3]
  · rw [if_neg h1, if_neg h1]
    split <;> simp only [*, Option.bind_some, Option.bind_none]

theorem pt_kod_eq (f : Nat) (t : Tok) (rest : List Tok) :
    pKoD (f + 1) (t :: rest) =
      if t.kind = .kwKept then some (.kept (rangeOf t t), t, rest)
      else if t.kind = .kwTo then (pDest f rest).bind fun (d, stop, r1) => some (.to d, stop, r1)
      else none := by
  rw [pKoD]; repeat' split
  all_goals first | rfl | simp only [*, Option.bind_some, Option.bind_none]

theorem pt_clauses_eq (f : Nat) (t : Tok) (rest : List Tok) :
    pClauses (f + 1) (t :: rest) =
      if t.kind = .kwMax then
        (pExpr f rest).bind fun (cap, _, r1) =>
          (pKoD f r1).bind fun (k, stop, r2) =>
            (pClauses f r2).bind fun (cs, r3) => some (.mk (rangeOf t stop) cap k :: cs, r3)
      else some ([], t :: rest) := by
  rw [pClauses]; split
  · repeat' split
    all_goals simp only [*, Option.bind_some, Option.bind_none]
  · rfl

theorem pt_dstItems_eq (f : Nat) (a : Tok) (rest : List Tok) :
    pDstItems (f + 1) (a :: rest) =
      (allotOfTok a).bind fun av =>
        (pKoD f rest).bind fun (k, stop, r1) =>
          if pt_allotNext r1 then
            (pDstItems f r1).bind fun (items, r2) => some (.mk (rangeOf a stop) av k :: items, r2)
          else some ([.mk (rangeOf a stop) av k], r1) := by
  simp only [pDstItems]
  rcases allotOfTok a with _ | av <;> try rfl
  dsimp only [Option.bind_some]
  rcases pKoD f rest with _ | ⟨k, s, _ | ⟨nx, r1⟩⟩ <;> try rfl
  dsimp only [Option.bind_some]
  rw [show pt_allotNext (nx :: _) = isAllotHead nx.kind from rfl]
  by_cases h : isAllotHead nx.kind = true
  · rw [if_pos h, if_pos h]
    split <;> simp only [*, Option.bind_some, Option.bind_none]
  · rw [if_neg h, if_neg h]

theorem pt_sentValue_eq (f : Nat) (t : Tok) (rest : List Tok) :
    pSentValue f (t :: rest) =
      if t.kind = .lbracket then
        (pExpr f rest).bind fun (a, _, r1) =>
          match expect .star r1 with
          | some (_, r2) =>
              (expect .rbracket r2).bind fun (rb, r3) => some (.all (rangeOf t rb) a, rb, r3)
          | none =>
              (pExpr f (t :: rest)).bind fun (e, stop, r1) => some (.lit (rangeOf t stop) e, stop, r1)
      else (pExpr f (t :: rest)).bind fun (e, stop, r1) => some (.lit (rangeOf t stop) e, stop, r1) := by
  simp only [pSentValue]; split
  · cases pExpr f rest with
    | none => rfl
    | some p =>
      dsimp only [Option.bind_some]
      cases expect .star p.2.2 <;> dsimp only
      all_goals repeat' split
      all_goals simp only [*, Option.bind_some, Option.bind_none]
  · split <;> simp only [*, Option.bind_some, Option.bind_none]

theorem pt_statement_eq (f : Nat) (t : Tok) (rest : List Tok) :
    pStatement f (t :: rest) =
      if t.kind = .kwSend then
        (pSentValue f rest).bind fun (sv, _, r1) =>
        (expect .lparen r1).bind fun (_, r2) =>
        (expect .kwSource r2).bind fun (_, r3) =>
        (expect .eq r3).bind fun (_, r4) =>
        (pSource f r4).bind fun (src, _, r5) =>
        (expect .kwDestination r5).bind fun (_, r6) =>
        (expect .eq r6).bind fun (_, r7) =>
        (pDest f r7).bind fun (dst, _, r8) =>
        (expect .rparen r8).bind fun (rp, r9) => some (.send (rangeOf t rp) sv src dst, rp, r9)
      else if t.kind = .kwSave then
        (pSentValue f rest).bind fun (sv, _, r1) =>
          (expect .kwFrom r1).bind fun (_, r2) =>
            (pExpr f r2).bind fun (e, stop, r3) => some (.save (rangeOf t stop) sv e, stop, r3)
      else (pFnCall f (t :: rest)).bind fun (c, stop, r1) => some (.fnCall c, stop, r1) := by
  rw [pStatement]
  by_cases h1 : t.kind = .kwSend
  · rw [if_pos h1, if_pos h1]; rfl
  · rw [if_neg h1, if_neg h1]
    by_cases h2 : t.kind = .kwSave
    · rw [if_pos h2, if_pos h2]
      repeat' split
      all_goals simp only [*, Option.bind_some, Option.bind_none]
    · rw [if_neg h2, if_neg h2]
      split <;> simp only [*, Option.bind_some, Option.bind_none]

theorem pt_statements_eq (f n : Nat) (t : Tok) (ts : List Tok) :
    pStatements f (n + 1) (t :: ts) =
      (pStatement f (t :: ts)).bind fun (s, _, rest) =>
        (pStatements f n rest).bind fun ss => some (s :: ss) := by
  simp only [pStatements]; repeat' split
  all_goals simp only [*, Option.bind_some, Option.bind_none]

theorem pt_varDecl_eq (f : Nat) (ty nm : Tok) (rest : List Tok) :
    pVarDecl f (ty :: nm :: rest) =
      if ty.kind = .ident ∧ nm.kind = .varName then
        match expect .eq rest with
        | some (_, r1) =>
            (pFnCall f r1).bind fun (c, stop, r2) =>
              some (⟨rangeOf ty stop, some (rangeOf nm nm, tokString nm.text.tail),
                some (rangeOf ty ty, tokString ty.text), some c⟩, stop, r2)
        | none =>
            some (⟨rangeOf ty nm, some (rangeOf nm nm, tokString nm.text.tail),
              some (rangeOf ty ty, tokString ty.text), none⟩, nm, rest)
      else none := by
  rw [pVarDecl]; split
  · cases expect .eq rest <;> dsimp only
    split <;> simp only [*, Option.bind_some, Option.bind_none]
  · rfl

theorem pt_varDecls_eq (f n : Nat) (t : Tok) (rest : List Tok) :
    pVarDecls f (n + 1) (t :: rest) =
      if t.kind = .rbrace then some ([], rest)
      else
        (pVarDecl f (t :: rest)).bind fun (d, _, r1) =>
          (pVarDecls f n r1).bind fun (ds, r2) => some (d :: ds, r2) := by
  rw [pVarDecls]; split
  · rfl
  · repeat' split
    all_goals simp only [*, Option.bind_some, Option.bind_none]

/-! ### without fuel, without input -/

theorem pt_expr_zero (ts : List Tok) : pExpr 0 ts = none := rfl
theorem pt_primary_zero (ts : List Tok) : pPrimary 0 ts = none := rfl
theorem pt_infixTail_zero (first : Tok) (l : Expr) (stop : Tok) (ts : List Tok) :
    pInfixTail 0 first l stop ts = none := rfl
theorem pt_source_zero (ts : List Tok) : pSource 0 ts = none := rfl
theorem pt_srcInorder_zero (lb : Tok) (ts : List Tok) : pSrcInorder 0 lb ts = none := rfl
theorem pt_sources_zero (ts : List Tok) : pSources 0 ts = none := rfl
theorem pt_srcItems_zero (ts : List Tok) : pSrcItems 0 ts = none := rfl
theorem pt_dest_zero (ts : List Tok) : pDest 0 ts = none := rfl
theorem pt_kod_zero (ts : List Tok) : pKoD 0 ts = none := rfl
theorem pt_clauses_zero (ts : List Tok) : pClauses 0 ts = none := rfl
theorem pt_dstItems_zero (ts : List Tok) : pDstItems 0 ts = none := rfl

theorem pt_infixTail_nil (f : Nat) (first : Tok) (l : Expr) (stop : Tok) :
    pInfixTail (f + 1) first l stop [] = some (l, stop, []) := rfl
theorem pt_sources_nil (f : Nat) : pSources (f + 1) [] = some ([], []) := rfl
theorem pt_clauses_nil (f : Nat) : pClauses (f + 1) [] = some ([], []) := rfl
theorem pt_statements_nil (f n : Nat) : pStatements f (n + 1) [] = some [] := rfl

theorem pt_parseTokens_eq (ts : List Tok) :
    parseTokens ts =
      match ts with
      | v :: lb :: rest =>
          if v.kind = .kwVars then
            if lb.kind = .lbrace then
              (pVarDecls (4 * ts.length + 8) (ts.length + 1) rest).bind fun (ds, r1) =>
                (pStatements (4 * ts.length + 8) (ts.length + 1) r1).bind fun ss => some ⟨ds, ss⟩
            else none
          else (pStatements (4 * ts.length + 8) (ts.length + 1) ts).bind fun ss => some ⟨[], ss⟩
      | _ => (pStatements (4 * ts.length + 8) (ts.length + 1) ts).bind fun ss => some ⟨[], ss⟩ := by
  unfold parseTokens
  obtain _ | ⟨v, _ | ⟨lb, rest⟩⟩ := ts <;> dsimp only
  all_goals repeat' split
  all_goals first | rfl | simp only [*, Option.map_eq_bind, Function.comp_def, Option.bind_some, Option.bind_none]

end NS
