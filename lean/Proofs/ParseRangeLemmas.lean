/-
  The ranges of the parsed tree, over a token stream in text order (`TokensSorted`).
  `pr_Res p r stop rest` is what every parser function returns: the node's range `r` starts at or
  after the lower bound `p` of the input and ends with the last token `stop`, and what is left is in
  text order behind `stop`.  Children whose ranges form a chain (`pr_Chain`) inside their node are
  within it (`Family`) and in text order (`Ordered`); `pr_SChain` is the same for ranges that are not
  empty, which makes the ranges of calls distinct.
-/
import Spec.ParseSpec
import Mathlib.Order.Defs.PartialOrder
import Spec.Names
import Proofs.ParserEquations

namespace NS

/-! ### positions as a preorder -/

theorem pr_gtEq_iff (p q : Pos) :
    p.gtEq q = true ↔ q.line < p.line ∨ (q.line = p.line ∧ q.char ≤ p.char) := by
  unfold Pos.gtEq; split <;> simp <;> omega

instance pr_posPreorder : Preorder Pos where
  le a b := b.gtEq a = true
  le_refl a := by simp [pr_gtEq_iff]
  le_trans a b c := by simp only [pr_gtEq_iff]; omega

theorem pr_le_iff (p q : Pos) : p.gtEq q = true ↔ q ≤ p := Iff.rfl

theorem pr_rangeOf_s (a b : Tok) : (rangeOf a b).s = a.startPos := rfl
theorem pr_rangeOf_e (a b : Tok) : (rangeOf a b).e = b.endPos := rfl

theorem pr_within_iff (c p : Range) : c.within p ↔ p.s ≤ c.s ∧ c.e ≤ p.e := Iff.rfl
theorem pr_before_iff (a b : Range) : a.before b ↔ a.e ≤ b.s := Iff.rfl
theorem pr_wf_iff (r : Range) : r.wf ↔ r.s ≤ r.e := Iff.rfl

theorem pr_tok_lt (t : Tok) (h : t.text ≠ []) : t.startPos < t.endPos := by
  have hl : 0 < t.text.length := List.length_pos_iff.mpr h
  rw [lt_iff_le_not_ge]
  show t.endPos.gtEq t.startPos = true ∧ ¬ t.startPos.gtEq t.endPos = true
  simp [pr_gtEq_iff, Tok.startPos, Tok.endPos]
  omega

theorem pr_tok_le (t : Tok) : t.startPos ≤ t.endPos := by
  show t.endPos.gtEq t.startPos = true
  simp [pr_gtEq_iff, Tok.startPos, Tok.endPos]

/-! ### sorted token streams -/

def pr_LB (p : Pos) (ts : List Tok) : Prop := ∀ t ∈ ts, p ≤ t.startPos

theorem pr_LB.mono {p q : Pos} {ts : List Tok} (h : pr_LB p ts) (hq : q ≤ p) : pr_LB q ts :=
  fun t ht => le_trans hq (h t ht)

theorem pr_LB.tail {p : Pos} {t : Tok} {ts : List Tok} (h : pr_LB p (t :: ts)) : pr_LB p ts :=
  fun u hu => h u (List.mem_cons_of_mem _ hu)

theorem pr_LB.head {p : Pos} {t : Tok} {ts : List Tok} (h : pr_LB p (t :: ts)) : p ≤ t.startPos :=
  h t List.mem_cons_self

theorem pr_sorted_tail {t : Tok} {rest : List Tok} (h : TokensSorted (t :: rest)) : TokensSorted rest := by
  cases rest with
  | nil => trivial
  | cons b r => exact h.2.2

theorem pr_sorted_lt {t : Tok} {rest : List Tok} (h : TokensSorted (t :: rest)) : t.startPos < t.endPos := by
  cases rest with
  | nil => exact pr_tok_lt t h
  | cons b r => exact pr_tok_lt t h.1

theorem pr_sorted_lb : ∀ {rest : List Tok} {t : Tok}, TokensSorted (t :: rest) → pr_LB t.endPos rest
  | [], _, _ => fun _ h => by cases h
  | b :: r, t, h => by
      intro u hu
      have h1 : t.endPos ≤ b.startPos := h.2.1
      rcases List.mem_cons.mp hu with rfl | hu
      · exact h1
      · exact le_trans h1 (le_trans (le_of_lt (pr_sorted_lt h.2.2)) (pr_sorted_lb h.2.2 u hu))

structure pr_Res (p : Pos) (r : Range) (stop : Tok) (rest : List Tok) : Prop where
  lo : p ≤ r.s
  wf : r.s ≤ r.e
  hi : r.e ≤ stop.endPos
  sorted : TokensSorted rest
  lb : pr_LB stop.endPos rest

theorem pr_Res.mono {p q : Pos} {r : Range} {stop : Tok} {rest : List Tok}
    (h : pr_Res p r stop rest) (hq : q ≤ p) : pr_Res q r stop rest :=
  ⟨le_trans hq h.lo, h.wf, h.hi, h.sorted, h.lb⟩

theorem pr_tok {p : Pos} {t : Tok} {rest : List Tok} (hs : TokensSorted (t :: rest)) (hl : pr_LB p (t :: rest)) :
    pr_Res p (rangeOf t t) t rest :=
  ⟨hl.head, le_of_lt (pr_sorted_lt hs), le_refl _, pr_sorted_tail hs, pr_sorted_lb hs⟩

theorem pr_ite {α : Type} {c : Prop} [Decidable c] {a b x : α} (h : (if c then a else b) = x) : a = x ∨ b = x := by
  split at h
  · exact .inl h
  · exact .inr h

theorem pr_ite_none {α : Type} {c : Prop} [Decidable c] {a : Option α} {x : α}
    (h : (if c then a else none) = some x) : a = some x :=
  (Option.ite_none_right_eq_some.mp h).2

theorem pr_expect_res {k : TK} {ts : List Tok} {t : Tok} {rest : List Tok} {p : Pos}
    (hs : TokensSorted ts) (hl : pr_LB p ts) (h : expect k ts = some (t, rest)) :
    pr_Res p (rangeOf t t) t rest := by
  obtain ⟨rfl, _⟩ := pt_expect_some h
  exact pr_tok hs hl

theorem pr_sorted_lb_self {t : Tok} {rest : List Tok} (h : TokensSorted (t :: rest)) :
    pr_LB t.startPos (t :: rest) := by
  intro u hu
  rcases List.mem_cons.mp hu with rfl | hu
  · exact le_refl _
  · exact le_trans (pr_tok_le t) (pr_sorted_lb h u hu)

/-! ### chains of ranges -/

def pr_Chain (lo hi : Pos) : List Range → Prop
  | [] => lo ≤ hi
  | c :: rest => lo ≤ c.s ∧ c.s ≤ c.e ∧ pr_Chain c.e hi rest

theorem pr_Chain.nil {p : Pos} : pr_Chain p p [] := le_refl p

theorem pr_Chain.le : ∀ {l : List Range} {lo hi : Pos}, pr_Chain lo hi l → lo ≤ hi
  | [], _, _, h => h
  | _ :: _, _, _, h => le_trans h.1 (le_trans h.2.1 (pr_Chain.le h.2.2))

theorem pr_Chain.mono : ∀ {l : List Range} {lo hi lo' hi' : Pos}, pr_Chain lo hi l → lo' ≤ lo → hi ≤ hi' →
    pr_Chain lo' hi' l
  | [], _, _, _, _, h, h1, h2 => le_trans h1 (le_trans h h2)
  | _ :: _, _, _, _, _, h, h1, h2 => ⟨le_trans h1 h.1, h.2.1, pr_Chain.mono h.2.2 (le_refl _) h2⟩

theorem pr_Chain.append : ∀ {l1 l2 : List Range} {lo mid hi : Pos}, pr_Chain lo mid l1 → pr_Chain mid hi l2 →
    pr_Chain lo hi (l1 ++ l2)
  | [], _, _, _, _, h1, h2 => pr_Chain.mono h2 h1 (le_refl _)
  | _ :: _, _, _, _, _, h1, h2 => ⟨h1.1, h1.2.1, pr_Chain.append h1.2.2 h2⟩

theorem pr_Chain.single {lo hi : Pos} {r : Range} (h1 : lo ≤ r.s) (h2 : r.s ≤ r.e) (h3 : r.e ≤ hi) :
    pr_Chain lo hi [r] := ⟨h1, h2, h3⟩

theorem pr_Chain.family (P : Range) : ∀ {l : List Range} {lo hi : Pos}, pr_Chain lo hi l → P.s ≤ lo → hi ≤ P.e →
    Family P l
  | [], _, _, _, _, _ => trivial
  | [_], _, _, h, h1, h2 => ⟨le_trans h1 h.1, le_trans h.2.2 h2⟩
  | _ :: _ :: _, _, _, h, h1, h2 =>
      ⟨⟨le_trans h1 h.1, le_trans (pr_Chain.le h.2.2) h2⟩, h.2.2.1,
        pr_Chain.family P h.2.2 (le_trans h1 (le_trans h.1 h.2.1)) h2⟩

theorem pr_Chain.ordered : ∀ {l : List Range} {lo hi : Pos}, pr_Chain lo hi l → Ordered l
  | [], _, _, _ => trivial
  | [_], _, _, _ => trivial
  | _ :: _ :: _, _, _, h => ⟨h.2.2.1, pr_Chain.ordered h.2.2⟩

theorem pr_Chain.mem : ∀ {l : List Range} {lo hi : Pos}, pr_Chain lo hi l → ∀ r ∈ l, lo ≤ r.s ∧ r.s ≤ r.e ∧ r.e ≤ hi
  | [], _, _, _, _, hr => by cases hr
  | c :: rest, lo, hi, h, r, hr => by
      rcases List.mem_cons.mp hr with rfl | hr
      · exact ⟨h.1, h.2.1, pr_Chain.le h.2.2⟩
      · obtain ⟨b1, b2, b3⟩ := pr_Chain.mem h.2.2 r hr
        exact ⟨le_trans h.1 (le_trans h.2.1 b1), b2, b3⟩

/-! ### strict chains (caller ranges) -/

def pr_SChain (lo hi : Pos) : List Range → Prop
  | [] => lo ≤ hi
  | c :: rest => lo ≤ c.s ∧ c.s < c.e ∧ pr_SChain c.e hi rest

theorem pr_SChain.chain : ∀ {l : List Range} {lo hi : Pos}, pr_SChain lo hi l → pr_Chain lo hi l
  | [], _, _, h => h
  | _ :: _, _, _, h => ⟨h.1, le_of_lt h.2.1, pr_SChain.chain h.2.2⟩

theorem pr_SChain.le {l : List Range} {lo hi : Pos} (h : pr_SChain lo hi l) : lo ≤ hi :=
  h.chain.le

theorem pr_SChain.mono : ∀ {l : List Range} {lo hi lo' hi' : Pos}, pr_SChain lo hi l → lo' ≤ lo → hi ≤ hi' →
    pr_SChain lo' hi' l
  | [], _, _, _, _, h, h1, h2 => le_trans h1 (le_trans h h2)
  | _ :: _, _, _, _, _, h, h1, h2 => ⟨le_trans h1 h.1, h.2.1, pr_SChain.mono h.2.2 (le_refl _) h2⟩

theorem pr_SChain.append : ∀ {l1 l2 : List Range} {lo mid hi : Pos}, pr_SChain lo mid l1 → pr_SChain mid hi l2 →
    pr_SChain lo hi (l1 ++ l2)
  | [], _, _, _, _, h1, h2 => pr_SChain.mono h2 h1 (le_refl _)
  | _ :: _, _, _, _, _, h1, h2 => ⟨h1.1, h1.2.1, pr_SChain.append h1.2.2 h2⟩

/-- a range cannot follow itself, since it is not empty -/
theorem pr_SChain.nodup : ∀ {l : List Range} {lo hi : Pos}, pr_SChain lo hi l → l.Nodup
  | [], _, _, _ => List.nodup_nil
  | c :: _, _, _, h =>
      List.nodup_cons.mpr ⟨fun hc => lt_irrefl _ (lt_of_lt_of_le h.2.1 (h.2.2.chain.mem c hc).1),
        pr_SChain.nodup h.2.2⟩

/-! ### a node and its children -/

theorem pr_Res.le {p : Pos} {r : Range} {stop : Tok} {rest : List Tok} (h : pr_Res p r stop rest) :
    p ≤ stop.endPos :=
  le_trans h.lo (le_trans h.wf h.hi)

theorem pr_Res.cons {p hi : Pos} {r : Range} {stop : Tok} {rest : List Tok} {l : List Range}
    (h : pr_Res p r stop rest) (hc : pr_Chain stop.endPos hi l) : pr_Chain p hi (r :: l) :=
  ⟨h.lo, h.wf, hc.mono h.hi (le_refl _)⟩

theorem pr_Res.skip {p hi : Pos} {r : Range} {stop : Tok} {rest : List Tok} {l : List Range}
    (h : pr_Res p r stop rest) (hc : pr_Chain stop.endPos hi l) : pr_Chain p hi l :=
  hc.mono h.le (le_refl _)

theorem pr_Chain.after (t : Tok) {hi : Pos} {l : List Range} (hc : pr_Chain t.endPos hi l) :
    pr_Chain t.startPos hi l :=
  hc.mono (pr_tok_le t) (le_refl _)

/-- a node that runs from the token `first` to `stop`, the last token of its last child; children that
    follow each other in between form a family of its range -/
theorem pr_node {p q : Pos} {first stop : Tok} {r : Range} {l : List Range} {rest : List Tok}
    (hp : p ≤ first.startPos) (hc : pr_Chain first.startPos stop.endPos l) (hlast : pr_Res q r stop rest) :
    pr_Res p (rangeOf first stop) stop rest ∧ Family (rangeOf first stop) l :=
  ⟨⟨hp, hc.le, le_refl _, hlast.sorted, hlast.lb⟩, pr_Chain.family _ hc (le_refl _) (le_refl _)⟩

/-- the same for a node closed by a token of its own -/
theorem pr_closed {p q : Pos} {first rb : Tok} {l : List Range} {k : TK} {ts rest : List Tok}
    (hp : p ≤ first.startPos) (hc : pr_Chain first.startPos q l) (hs : TokensSorted ts) (hl : pr_LB q ts)
    (h : expect k ts = some (rb, rest)) :
    pr_Res p (rangeOf first rb) rb rest ∧ Family (rangeOf first rb) l :=
  have hq := pr_expect_res hs hl h
  pr_node hp (hc.mono (le_refl _) hq.le) hq

/-! ### expressions -/

theorem pr_range_monetary (r : Range) (a b : Expr) : (Expr.monetary r a b).range = r := rfl
theorem pr_range_infix (r : Range) (o : InfixOp) (a b : Expr) : (Expr.infix r o a b).range = r := rfl

theorem pr_expr_inv (f : Nat) :
    (∀ {ts p e stop rest}, TokensSorted ts → pr_LB p ts → pExpr f ts = some (e, stop, rest) →
        pr_Res p e.range stop rest ∧ e.RangesOk) ∧
    (∀ {ts p e stop rest}, TokensSorted ts → pr_LB p ts → pPrimary f ts = some (e, stop, rest) →
        pr_Res p e.range stop rest ∧ e.RangesOk) ∧
    (∀ {first} l {stop ts e stop' rest'}, pr_Res first.startPos l.range stop ts → l.RangesOk →
        pInfixTail f first l stop ts = some (e, stop', rest') →
        pr_Res first.startPos e.range stop' rest' ∧ e.RangesOk) := by
  induction f with
  | zero => simp [pt_expr_zero, pt_primary_zero, pt_infixTail_zero]
  | succ f ih =>
      obtain ⟨ihE, ihP, ihT⟩ := ih
      refine ⟨?_, ?_, ?_⟩
      · intro ts p e stop rest hs hl h
        cases ts with
        | nil => cases h
        | cons first tl =>
            rw [pt_expr_eq] at h
            obtain ⟨⟨e1, s1, r1⟩, h1, h⟩ := Option.bind_eq_some_iff.mp h
            obtain ⟨a1, a2⟩ := ihP hs (pr_sorted_lb_self hs) h1
            obtain ⟨b1, b2⟩ := ihT _ a1 a2 h
            exact ⟨b1.mono hl.head, b2⟩
      · intro ts p e stop rest hs hl h
        cases ts with
        | nil => cases h
        | cons t tl =>
            have ht := pr_tok hs hl
            have hwf : (rangeOf t t).wf := pr_tok_le t
            rw [pt_primary_eq] at h
            split at h
            -- one token: variable, asset, string, account; number; the two spellings of a portion
            iterate 4 · cases h; exact ⟨ht, hwf⟩
            · obtain ⟨v, _, h⟩ := Option.bind_eq_some_iff.mp h
              cases h; exact ⟨ht, hwf⟩
            iterate 2
              · obtain ⟨e1, h1, h⟩ := Option.bind_eq_some_iff.mp h
                cases h
                obtain ⟨-, n, d, rfl⟩ := pt_portionExpr_some h1
                exact ⟨ht, hwf⟩
            · obtain ⟨⟨a, sa, r1⟩, h1, h⟩ := Option.bind_eq_some_iff.mp h
              obtain ⟨ha, oka⟩ := ihE ht.sorted ht.lb h1
              obtain ⟨⟨b, sb, r2⟩, h2, h⟩ := Option.bind_eq_some_iff.mp h
              obtain ⟨hb, okb⟩ := ihE ha.sorted ha.lb h2
              obtain ⟨⟨rb, r3⟩, h3, h⟩ := Option.bind_eq_some_iff.mp h
              cases h
              obtain ⟨hr, hf⟩ := pr_closed hl.head (.after t (ha.cons (hb.cons .nil))) hb.sorted hb.lb h3
              exact ⟨hr, And.intro hf ⟨oka, okb⟩⟩
            · cases h
      · intro first l stop ts e stop' rest' hres hok h
        cases ts with
        | nil => rw [pt_infixTail_nil] at h; cases h; exact ⟨hres, hok⟩
        | cons op tl =>
            rw [pt_infixTail_eq] at h
            rcases pr_ite h with h | h
            · obtain ⟨⟨r, sr, r1⟩, h1, h⟩ := Option.bind_eq_some_iff.mp h
              have hop := pr_tok hres.sorted hres.lb
              obtain ⟨hr, okr⟩ := ihP hop.sorted hop.lb h1
              obtain ⟨hn, hf⟩ := pr_node (le_refl _) (hres.cons (hop.skip (hr.cons .nil))) hr
              exact ihT (.infix _ _ l r) hn (And.intro hf ⟨hok, okr⟩) h
            · cases h; exact ⟨hres, hok⟩

theorem pr_expr {f : Nat} {ts : List Tok} {p : Pos} {e : Expr} {stop : Tok} {rest : List Tok}
    (hs : TokensSorted ts) (hl : pr_LB p ts) (h : pExpr f ts = some (e, stop, rest)) :
    pr_Res p e.range stop rest ∧ e.RangesOk :=
  (pr_expr_inv f).1 hs hl h

/-! ### function calls -/

theorem pr_argsTail_inv {f : Nat} : ∀ {ts p es rest}, TokensSorted ts → pr_LB p ts →
    pArgsTail f ts = some (es, rest) →
    (∃ hi, pr_Chain p hi (es.map Expr.range) ∧ pr_LB hi rest) ∧ TokensSorted rest ∧ ExprsRangesOk es := by
  induction f with
  | zero => exact nofun
  | succ f ih =>
      intro ts p es rest hs hl h
      rw [pt_argsTail_eq] at h
      split at h
      · rename_i c r0 h0
        have hc := pr_expect_res hs hl h0
        obtain ⟨⟨e, se, r1⟩, h1, h⟩ := Option.bind_eq_some_iff.mp h
        obtain ⟨he, oke⟩ := pr_expr hc.sorted hc.lb h1
        obtain ⟨⟨es', r2⟩, h2, h⟩ := Option.bind_eq_some_iff.mp h
        obtain ⟨⟨hi, g1, g2⟩, g3, g4⟩ := ih he.sorted he.lb h2
        cases h
        exact ⟨⟨hi, hc.skip (he.cons g1), g2⟩, g3, oke, g4⟩
      · cases h
        exact ⟨⟨p, .nil, hl⟩, hs, trivial⟩

/-- the caller range of a call is a non-empty range within the call -/
theorem pr_fnCall_inv {f : Nat} {ts : List Tok} {p : Pos} {c : FnCall} {stop : Tok} {rest : List Tok}
    (hs : TokensSorted ts) (hl : pr_LB p ts) (h : pFnCall f ts = some (c, stop, rest)) :
    pr_Res p c.r stop rest ∧ c.RangesOk ∧ pr_SChain c.r.s c.r.e [c.callerRange] := by
  obtain _ | ⟨name, _ | ⟨lp, tl⟩⟩ := ts <;> try cases h
  have hn := pr_tok hs (pr_sorted_lb_self hs)
  have hp := pr_tok hn.sorted hn.lb
  rw [pt_fnCall_eq] at h
  replace h := pr_ite_none h
  split at h
  · rename_i rp r1 h1
    cases h
    obtain ⟨hr, hf⟩ := pr_closed hl.head (hn.cons (hp.skip .nil)) hp.sorted hp.lb h1
    exact ⟨hr, ⟨hf, trivial⟩, le_refl _, pr_sorted_lt hs, hf.2⟩
  · obtain ⟨⟨e, se, r1⟩, h1, h⟩ := Option.bind_eq_some_iff.mp h
    obtain ⟨he, oke⟩ := pr_expr hp.sorted hp.lb h1
    obtain ⟨⟨es, r2⟩, h2, h⟩ := Option.bind_eq_some_iff.mp h
    obtain ⟨⟨hi, g1, g2⟩, g3, g4⟩ := pr_argsTail_inv he.sorted he.lb h2
    obtain ⟨⟨rp, r3⟩, h3, h⟩ := Option.bind_eq_some_iff.mp h
    cases h
    obtain ⟨hr, hf⟩ := pr_closed hl.head (hn.cons (hp.skip (he.cons g1))) g3 g2 h3
    exact ⟨hr, ⟨hf, oke, g4⟩, le_refl _, pr_sorted_lt hs, hf.1.2⟩

/-! ### sources -/

theorem pr_srange_account (e : Expr) : (Source.account e).range = e.range := rfl
theorem pr_srange_overdraft (r : Range) (a : Expr) (b : Option Expr) : (Source.overdraft r a b).range = r := rfl
theorem pr_srange_inorder (r : Range) (l : List Source) : (Source.inorder r l).range = r := rfl
theorem pr_srange_capped (r : Range) (c : Expr) (s : Source) : (Source.capped r c s).range = r := rfl
theorem pr_srange_allotment (r : Range) (l : List SrcItem) : (Source.allotment r l).range = r := rfl
theorem pr_arange_remaining (r : Range) : (AllotVal.remaining r).range = r := rfl
theorem pr_arange_portion (e : Expr) : (AllotVal.portion e).range = e.range := rfl

theorem pr_allotOfTok {a : Tok} {av : AllotVal} (h : allotOfTok a = some av) :
    av.range = rangeOf a a ∧ av.RangesOk := by
  rcases pt_allotOfTok_some h with ⟨-, rfl⟩ | ⟨-, rfl⟩ | ⟨-, n, d, rfl⟩ <;> exact ⟨rfl, pr_tok_le a⟩

theorem pr_source_inv (f : Nat) :
    (∀ {ts p s stop rest}, TokensSorted ts → pr_LB p ts → pSource f ts = some (s, stop, rest) →
        pr_Res p s.range stop rest ∧ s.RangesOk) ∧
    (∀ {lb ts p s stop rest}, p ≤ lb.startPos → TokensSorted ts → pr_LB lb.endPos ts →
        pSrcInorder f lb ts = some (s, stop, rest) → pr_Res p s.range stop rest ∧ s.RangesOk) ∧
    (∀ {ts p ss rest}, TokensSorted ts → pr_LB p ts → pSources f ts = some (ss, rest) →
        (∃ hi, pr_Chain p hi (srcRanges ss) ∧ pr_LB hi rest) ∧ TokensSorted rest ∧ SourcesRangesOk ss) ∧
    (∀ {ts p items rest}, TokensSorted ts → pr_LB p ts → pSrcItems f ts = some (items, rest) →
        (∃ hi, pr_Chain p hi (srcItemRanges items) ∧ pr_LB hi rest) ∧ TokensSorted rest ∧
          SrcItemsRangesOk items) := by
  induction f with
  | zero => simp [pt_source_zero, pt_srcInorder_zero, pt_sources_zero, pt_srcItems_zero]
  | succ f ih =>
      obtain ⟨ihS, ihO, ihL, ihI⟩ := ih
      refine ⟨?_, ?_, ?_, ?_⟩
      · intro ts p s stop rest hs hl h
        cases ts with
        | nil => cases h
        | cons t tl =>
            have ht := pr_tok hs hl
            rw [pt_source_eq] at h
            rcases pr_ite h with h | h
            · rcases pr_ite h with h | h
              · obtain ⟨⟨items, r1⟩, h1, h⟩ := Option.bind_eq_some_iff.mp h
                obtain ⟨⟨hi, g1, g2⟩, g3, g4⟩ := ihI ht.sorted ht.lb h1
                obtain ⟨⟨rb, r2⟩, h2, h⟩ := Option.bind_eq_some_iff.mp h
                cases h
                obtain ⟨hr, hf⟩ := pr_closed hl.head (.after t g1) g3 g2 h2
                exact ⟨hr, And.intro hf g4⟩
              · exact ihO hl.head ht.sorted ht.lb h
            · rcases pr_ite h with h | h
              · -- `max`
                obtain ⟨⟨cap, sc, r1⟩, h1, h⟩ := Option.bind_eq_some_iff.mp h
                obtain ⟨hc, okc⟩ := pr_expr ht.sorted ht.lb h1
                obtain ⟨⟨fr, r2⟩, h2, h⟩ := Option.bind_eq_some_iff.mp h
                have hfr := pr_expect_res hc.sorted hc.lb h2
                obtain ⟨⟨src, ss, r3⟩, h3, h⟩ := Option.bind_eq_some_iff.mp h
                obtain ⟨hsrc, oks⟩ := ihS hfr.sorted hfr.lb h3
                cases h
                obtain ⟨hr, hf⟩ := pr_node hl.head (.after t (hc.cons (hfr.skip (hsrc.cons .nil)))) hsrc
                exact ⟨hr, And.intro hf ⟨okc, oks⟩⟩
              · -- account, possibly with overdraft
                obtain ⟨⟨addr, sa, r1⟩, h1, h⟩ := Option.bind_eq_some_iff.mp h
                obtain ⟨ha, oka⟩ := pr_expr hs (pr_sorted_lb_self hs) h1
                dsimp only at h
                split at h
                · cases h
                  exact ⟨ha.mono hl.head, oka⟩
                · rename_i al u o r3 h2
                  have hal := pr_expect_res ha.sorted ha.lb h2
                  have hu := pr_tok hal.sorted hal.lb
                  have ho := pr_tok hu.sorted hu.lb
                  rcases pr_ite h with h | h
                  · cases h
                    obtain ⟨hr, hf⟩ := pr_node hl.head (ha.cons (hal.skip (hu.skip (ho.skip .nil)))) ho
                    exact ⟨hr, And.intro hf oka⟩
                  · replace h := pr_ite_none h
                    obtain ⟨⟨up, r4⟩, h4, h⟩ := Option.bind_eq_some_iff.mp h
                    have hup := pr_expect_res hu.sorted hu.lb h4
                    obtain ⟨⟨tk, r5⟩, h5, h⟩ := Option.bind_eq_some_iff.mp h
                    have hto := pr_expect_res hup.sorted hup.lb h5
                    obtain ⟨⟨b, sb, r6⟩, h6, h⟩ := Option.bind_eq_some_iff.mp h
                    obtain ⟨hb, okb⟩ := pr_expr hto.sorted hto.lb h6
                    cases h
                    obtain ⟨hr, hf⟩ := pr_node hl.head
                      (ha.cons (hal.skip (hu.skip (hup.skip (hto.skip (hb.cons .nil)))))) hb
                    exact ⟨hr, And.intro hf ⟨oka, okb⟩⟩
                · cases h
      · intro lb ts p s stop rest hp hs hl h
        rw [pt_srcInorder_eq] at h
        obtain ⟨⟨srcs, r1⟩, h1, h⟩ := Option.bind_eq_some_iff.mp h
        obtain ⟨⟨hi, g1, g2⟩, g3, g4⟩ := ihL hs hl h1
        obtain ⟨⟨rb, r2⟩, h2, h⟩ := Option.bind_eq_some_iff.mp h
        cases h
        obtain ⟨hr, hf⟩ := pr_closed hp (.after lb g1) g3 g2 h2
        exact ⟨hr, And.intro hf g4⟩
      · intro ts p ss rest hs hl h
        cases ts with
        | nil =>
            rw [pt_sources_nil] at h
            cases h
            exact ⟨⟨p, .nil, hl⟩, hs, trivial⟩
        | cons t tl =>
            rw [pt_sources_eq] at h
            rcases pr_ite h with h | h
            · obtain ⟨⟨s, st, r1⟩, h1, h⟩ := Option.bind_eq_some_iff.mp h
              obtain ⟨hsrc, oks⟩ := ihS hs hl h1
              obtain ⟨⟨l, r2⟩, h2, h⟩ := Option.bind_eq_some_iff.mp h
              obtain ⟨⟨hi, g1, g2⟩, g3, g4⟩ := ihL hsrc.sorted hsrc.lb h2
              cases h
              exact ⟨⟨hi, hsrc.cons g1, g2⟩, g3, oks, g4⟩
            · cases h
              exact ⟨⟨p, .nil, hl⟩, hs, trivial⟩
      · intro ts p items rest hs hl h
        cases ts with
        | nil => cases h
        | cons a tl =>
            have ha := pr_tok hs (pr_sorted_lb_self hs)
            rw [pt_srcItems_eq] at h
            obtain ⟨av, hav, h⟩ := Option.bind_eq_some_iff.mp h
            obtain ⟨av1, av2⟩ := pr_allotOfTok hav
            obtain ⟨⟨fr, r1⟩, h1, h⟩ := Option.bind_eq_some_iff.mp h
            have hfr := pr_expect_res ha.sorted ha.lb h1
            obtain ⟨⟨src, st, r2⟩, h2, h⟩ := Option.bind_eq_some_iff.mp h
            obtain ⟨hsrc, oks⟩ := ihS hfr.sorted hfr.lb h2
            obtain ⟨hr, hf⟩ := pr_node hl.head (ha.cons (hfr.skip (hsrc.cons .nil))) hsrc
            rw [← av1] at hf
            rcases pr_ite h with h | h
            · obtain ⟨⟨l, r3⟩, h3, h⟩ := Option.bind_eq_some_iff.mp h
              obtain ⟨⟨hi, g1, g2⟩, g3, g4⟩ := ihI hr.sorted hr.lb h3
              cases h
              exact ⟨⟨hi, hr.cons g1, g2⟩, g3, hf, av2, oks, g4⟩
            · cases h
              exact ⟨⟨_, hr.cons .nil, hr.lb⟩, hr.sorted, hf, av2, oks, trivial⟩

/-! ### destinations -/

theorem pr_drange_account (e : Expr) : (Dest.account e).range = e.range := rfl
theorem pr_drange_inorder (r : Range) (l : List DestClause) (k : KoD) : (Dest.inorder r l k).range = r := rfl
theorem pr_drange_allotment (r : Range) (l : List DestItem) : (Dest.allotment r l).range = r := rfl
theorem pr_krange_kept (r : Range) : (KoD.kept r).range = r := rfl
theorem pr_krange_to (d : Dest) : (KoD.to d).range = d.range := rfl

theorem pr_dest_inv (f : Nat) :
    (∀ {ts p d stop rest}, TokensSorted ts → pr_LB p ts → pDest f ts = some (d, stop, rest) →
        pr_Res p d.range stop rest ∧ d.RangesOk) ∧
    (∀ {ts p k stop rest}, TokensSorted ts → pr_LB p ts → pKoD f ts = some (k, stop, rest) →
        pr_Res p k.range stop rest ∧ k.RangesOk) ∧
    (∀ {ts p cs rest}, TokensSorted ts → pr_LB p ts → pClauses f ts = some (cs, rest) →
        (∃ hi, pr_Chain p hi (clauseRanges cs) ∧ pr_LB hi rest) ∧ TokensSorted rest ∧ ClausesRangesOk cs) ∧
    (∀ {ts p items rest}, TokensSorted ts → pr_LB p ts → pDstItems f ts = some (items, rest) →
        (∃ hi, pr_Chain p hi (dstItemRanges items) ∧ pr_LB hi rest) ∧ TokensSorted rest ∧
          DstItemsRangesOk items) := by
  induction f with
  | zero => simp [pt_dest_zero, pt_kod_zero, pt_clauses_zero, pt_dstItems_zero]
  | succ f ih =>
      obtain ⟨ihD, ihK, ihC, ihI⟩ := ih
      refine ⟨?_, ?_, ?_, ?_⟩
      · intro ts p d stop rest hs hl h
        cases ts with
        | nil => cases h
        | cons t tl =>
            have ht := pr_tok hs hl
            rw [pt_dest_eq] at h
            rcases pr_ite h with h | h
            · obtain _ | ⟨a, tl'⟩ := tl
              · cases h
              · rcases pr_ite h with h | h
                · -- ordered clauses
                  obtain ⟨⟨clauses, r1⟩, h1, h⟩ := Option.bind_eq_some_iff.mp h
                  obtain ⟨⟨hi, g1, g2⟩, g3, g4⟩ := ihC ht.sorted ht.lb h1
                  obtain ⟨⟨rm, r2⟩, h2, h⟩ := Option.bind_eq_some_iff.mp h
                  have hrm := pr_expect_res g3 g2 h2
                  obtain ⟨⟨k, sk, r3⟩, h3, h⟩ := Option.bind_eq_some_iff.mp h
                  obtain ⟨hk, okk⟩ := ihK hrm.sorted hrm.lb h3
                  obtain ⟨⟨rb, r4⟩, h4, h⟩ := Option.bind_eq_some_iff.mp h
                  cases h
                  obtain ⟨hr, hf⟩ := pr_closed hl.head (.after t (g1.append (hrm.skip (hk.cons .nil))))
                    hk.sorted hk.lb h4
                  exact ⟨hr, And.intro hf ⟨g4, okk⟩⟩
                · -- allotment
                  replace h := pr_ite_none h
                  obtain ⟨⟨items, r1⟩, h1, h⟩ := Option.bind_eq_some_iff.mp h
                  obtain ⟨⟨hi, g1, g2⟩, g3, g4⟩ := ihI ht.sorted ht.lb h1
                  obtain ⟨⟨rb, r2⟩, h2, h⟩ := Option.bind_eq_some_iff.mp h
                  cases h
                  obtain ⟨hr, hf⟩ := pr_closed hl.head (.after t g1) g3 g2 h2
                  exact ⟨hr, And.intro hf g4⟩
            · obtain ⟨⟨e, se, r1⟩, h1, h⟩ := Option.bind_eq_some_iff.mp h
              cases h
              exact pr_expr hs hl h1
      · intro ts p k stop rest hs hl h
        cases ts with
        | nil => cases h
        | cons t tl =>
            have ht := pr_tok hs hl
            rw [pt_kod_eq] at h
            rcases pr_ite h with h | h
            · cases h
              exact ⟨ht, pr_tok_le _⟩
            · replace h := pr_ite_none h
              obtain ⟨⟨d, sd, r1⟩, h1, h⟩ := Option.bind_eq_some_iff.mp h
              obtain ⟨hd, okd⟩ := ihD ht.sorted ht.lb h1
              cases h
              exact ⟨hd.mono ht.le, okd⟩
      · intro ts p cs rest hs hl h
        cases ts with
        | nil =>
            rw [pt_clauses_nil] at h
            cases h
            exact ⟨⟨p, .nil, hl⟩, hs, trivial⟩
        | cons t tl =>
            have ht := pr_tok hs hl
            rw [pt_clauses_eq] at h
            rcases pr_ite h with h | h
            · obtain ⟨⟨cap, sc, r1⟩, h1, h⟩ := Option.bind_eq_some_iff.mp h
              obtain ⟨hc, okc⟩ := pr_expr ht.sorted ht.lb h1
              obtain ⟨⟨k, sk, r2⟩, h2, h⟩ := Option.bind_eq_some_iff.mp h
              obtain ⟨hk, okk⟩ := ihK hc.sorted hc.lb h2
              obtain ⟨⟨l, r3⟩, h3, h⟩ := Option.bind_eq_some_iff.mp h
              obtain ⟨⟨hi, g1, g2⟩, g3, g4⟩ := ihC hk.sorted hk.lb h3
              cases h
              obtain ⟨hr, hf⟩ := pr_node hl.head (.after t (hc.cons (hk.cons .nil))) hk
              exact ⟨⟨hi, hr.cons g1, g2⟩, g3, hf, okc, okk, g4⟩
            · cases h
              exact ⟨⟨p, .nil, hl⟩, hs, trivial⟩
      · intro ts p items rest hs hl h
        cases ts with
        | nil => cases h
        | cons a tl =>
            have ha := pr_tok hs (pr_sorted_lb_self hs)
            rw [pt_dstItems_eq] at h
            obtain ⟨av, hav, h⟩ := Option.bind_eq_some_iff.mp h
            obtain ⟨av1, av2⟩ := pr_allotOfTok hav
            obtain ⟨⟨k, st, r2⟩, h2, h⟩ := Option.bind_eq_some_iff.mp h
            obtain ⟨hk, okk⟩ := ihK ha.sorted ha.lb h2
            obtain ⟨hr, hf⟩ := pr_node hl.head (ha.cons (hk.cons .nil)) hk
            rw [← av1] at hf
            rcases pr_ite h with h | h
            · obtain ⟨⟨l, r3⟩, h3, h⟩ := Option.bind_eq_some_iff.mp h
              obtain ⟨⟨hi, g1, g2⟩, g3, g4⟩ := ihI hr.sorted hr.lb h3
              cases h
              exact ⟨⟨hi, hr.cons g1, g2⟩, g3, hf, av2, okk, g4⟩
            · cases h
              exact ⟨⟨_, hr.cons .nil, hr.lb⟩, hr.sorted, hf, av2, okk, trivial⟩

/-! ### statements -/

theorem pr_svrange_lit (r : Range) (e : Expr) : (SentValue.lit r e).range = r := rfl
theorem pr_svrange_all (r : Range) (e : Expr) : (SentValue.all r e).range = r := rfl
theorem pr_strange_send (r : Range) (sv : SentValue) (src : Source) (dst : Dest) :
    (Statement.send r sv src dst).range = r := rfl
theorem pr_strange_save (r : Range) (sv : SentValue) (e : Expr) : (Statement.save r sv e).range = r := rfl
theorem pr_strange_fnCall (c : FnCall) : (Statement.fnCall c).range = c.r := rfl

theorem pr_sentValue_inv {f : Nat} {ts : List Tok} {p : Pos} {sv : SentValue} {stop : Tok} {rest : List Tok}
    (hs : TokensSorted ts) (hl : pr_LB p ts) (h : pSentValue f ts = some (sv, stop, rest)) :
    pr_Res p sv.range stop rest ∧ sv.RangesOk := by
  cases ts with
  | nil => cases h
  | cons t tl =>
      have ht := pr_tok hs hl
      have lit : ((pExpr f (t :: tl)).bind fun (e, stop, r1) =>
          some (SentValue.lit (rangeOf t stop) e, stop, r1)) = some (sv, stop, rest) →
          pr_Res p sv.range stop rest ∧ sv.RangesOk := by
        intro h
        obtain ⟨⟨e, se, r1⟩, h1, h⟩ := Option.bind_eq_some_iff.mp h
        obtain ⟨he, oke⟩ := pr_expr hs (pr_sorted_lb_self hs) h1
        cases h
        obtain ⟨hr, hf⟩ := pr_node hl.head (he.cons .nil) he
        exact ⟨hr, hf, oke⟩
      rw [pt_sentValue_eq] at h
      rcases pr_ite h with h | h
      · obtain ⟨⟨a, sa, r1⟩, h1, h⟩ := Option.bind_eq_some_iff.mp h
        obtain ⟨ha, oka⟩ := pr_expr ht.sorted ht.lb h1
        dsimp only at h
        split at h
        · rename_i st r2 h2
          have hst := pr_expect_res ha.sorted ha.lb h2
          obtain ⟨⟨rb, r3⟩, h3, h⟩ := Option.bind_eq_some_iff.mp h
          cases h
          obtain ⟨hr, hf⟩ := pr_closed hl.head (.after t (ha.cons (hst.skip .nil))) hst.sorted hst.lb h3
          exact ⟨hr, hf, oka⟩
        · exact lit h
      · exact lit h

theorem pr_statement_inv {f : Nat} {ts : List Tok} {p : Pos} {s : Statement} {stop : Tok} {rest : List Tok}
    (hs : TokensSorted ts) (hl : pr_LB p ts) (h : pStatement f ts = some (s, stop, rest)) :
    pr_Res p s.range stop rest ∧ s.RangesOk ∧ pr_SChain s.range.s s.range.e (stmtCall s) := by
  cases ts with
  | nil => cases h
  | cons t tl =>
      have ht := pr_tok hs hl
      rw [pt_statement_eq] at h
      rcases pr_ite h with h | h
      · obtain ⟨⟨sv, ssv, r1⟩, h1, h⟩ := Option.bind_eq_some_iff.mp h
        obtain ⟨hsv, oksv⟩ := pr_sentValue_inv ht.sorted ht.lb h1
        obtain ⟨⟨lp, r2⟩, h2, h⟩ := Option.bind_eq_some_iff.mp h
        have hlp := pr_expect_res hsv.sorted hsv.lb h2
        obtain ⟨⟨ks, r3⟩, h3, h⟩ := Option.bind_eq_some_iff.mp h
        have hks := pr_expect_res hlp.sorted hlp.lb h3
        obtain ⟨⟨e1, r4⟩, h4, h⟩ := Option.bind_eq_some_iff.mp h
        have he1 := pr_expect_res hks.sorted hks.lb h4
        obtain ⟨⟨src, ssrc, r5⟩, h5, h⟩ := Option.bind_eq_some_iff.mp h
        obtain ⟨hsrc, oksrc⟩ := (pr_source_inv f).1 he1.sorted he1.lb h5
        obtain ⟨⟨kd, r6⟩, h6, h⟩ := Option.bind_eq_some_iff.mp h
        have hkd := pr_expect_res hsrc.sorted hsrc.lb h6
        obtain ⟨⟨e2, r7⟩, h7, h⟩ := Option.bind_eq_some_iff.mp h
        have he2 := pr_expect_res hkd.sorted hkd.lb h7
        obtain ⟨⟨dst, sdst, r8⟩, h8, h⟩ := Option.bind_eq_some_iff.mp h
        obtain ⟨hdst, okdst⟩ := (pr_dest_inv f).1 he2.sorted he2.lb h8
        obtain ⟨⟨rp, r9⟩, h9, h⟩ := Option.bind_eq_some_iff.mp h
        cases h
        obtain ⟨hr, hf⟩ := pr_closed hl.head
          (.after t (hsv.cons (hlp.skip (hks.skip (he1.skip (hsrc.cons (hkd.skip (he2.skip (hdst.cons .nil)))))))))
          hdst.sorted hdst.lb h9
        exact ⟨hr, ⟨hf, oksv, oksrc, okdst⟩, hr.wf⟩
      · rcases pr_ite h with h | h
        · obtain ⟨⟨sv, ssv, r1⟩, h1, h⟩ := Option.bind_eq_some_iff.mp h
          obtain ⟨hsv, oksv⟩ := pr_sentValue_inv ht.sorted ht.lb h1
          obtain ⟨⟨fr, r2⟩, h2, h⟩ := Option.bind_eq_some_iff.mp h
          have hfr := pr_expect_res hsv.sorted hsv.lb h2
          obtain ⟨⟨e, se, r3⟩, h3, h⟩ := Option.bind_eq_some_iff.mp h
          obtain ⟨he, oke⟩ := pr_expr hfr.sorted hfr.lb h3
          cases h
          obtain ⟨hr, hf⟩ := pr_node hl.head (.after t (hsv.cons (hfr.skip (he.cons .nil)))) he
          exact ⟨hr, ⟨hf, oksv, oke⟩, hr.wf⟩
        · obtain ⟨⟨c, sc, r1⟩, h1, h⟩ := Option.bind_eq_some_iff.mp h
          cases h
          exact pr_fnCall_inv hs hl h1

theorem pr_statements_inv (f : Nat) : ∀ (n : Nat) (ts : List Tok) (p : Pos) (ss : List Statement),
    TokensSorted ts → pr_LB p ts → pStatements f n ts = some ss →
    (∃ hi, pr_Chain p hi (ss.map Statement.range) ∧ pr_SChain p hi (ss.flatMap stmtCall)) ∧
      ∀ s ∈ ss, s.RangesOk
  | 0, _, _, _, _, _, h => by cases h
  | n + 1, [], p, ss, _, _, h => by
      rw [pt_statements_nil] at h
      cases h
      exact ⟨⟨p, .nil, le_refl p⟩, List.forall_mem_nil _⟩
  | n + 1, t :: tl, p, ss, hs, hl, h => by
      rw [pt_statements_eq] at h
      obtain ⟨⟨s, st, r1⟩, h1, h⟩ := Option.bind_eq_some_iff.mp h
      obtain ⟨ha, oka, ca⟩ := pr_statement_inv hs hl h1
      obtain ⟨ss', h2, h⟩ := Option.bind_eq_some_iff.mp h
      obtain ⟨⟨hi, g1, g2⟩, g3⟩ := pr_statements_inv f n _ _ _ ha.sorted ha.lb h2
      cases h
      exact ⟨⟨hi, ha.cons g1, (ca.mono ha.lo ha.hi).append g2⟩, List.forall_mem_cons.mpr ⟨oka, g3⟩⟩

/-! ### declarations -/

theorem pr_varDecl_inv {f : Nat} {ts : List Tok} {p : Pos} {d : VarDecl} {stop : Tok} {rest : List Tok}
    (hs : TokensSorted ts) (hl : pr_LB p ts) (h : pVarDecl f ts = some (d, stop, rest)) :
    pr_Res p d.r stop rest ∧ d.RangesOk ∧ pr_SChain d.r.s d.r.e (declCall d) := by
  obtain _ | ⟨ty, _ | ⟨nm, tl⟩⟩ := ts <;> try cases h
  have hty := pr_tok hs (pr_sorted_lb_self hs)
  have hnm := pr_tok hty.sorted hty.lb
  rw [pt_varDecl_eq] at h
  replace h := pr_ite_none h
  split at h
  · rename_i eq r1 h1
    have heq := pr_expect_res hnm.sorted hnm.lb h1
    obtain ⟨⟨c, sc, r2⟩, h2, h⟩ := Option.bind_eq_some_iff.mp h
    obtain ⟨hc, okc, cc⟩ := pr_fnCall_inv heq.sorted heq.lb h2
    cases h
    obtain ⟨hr, hf⟩ := pr_node hl.head (hty.cons (hnm.cons (heq.skip (hc.cons .nil)))) hc
    have hw : c.r.within (rangeOf ty stop) := hf.2.2.2.2
    exact ⟨hr, ⟨hf, okc⟩, cc.mono hw.1 hw.2⟩
  · cases h
    obtain ⟨hr, hf⟩ := pr_node hl.head (hty.cons (hnm.cons .nil)) hnm
    exact ⟨hr, hf, hr.wf⟩

theorem pr_varDecls_inv (f : Nat) : ∀ (n : Nat) (ts : List Tok) (p : Pos) (ds : List VarDecl) (rest : List Tok),
    TokensSorted ts → pr_LB p ts → pVarDecls f n ts = some (ds, rest) →
    (∃ hi, pr_Chain p hi (ds.map (·.r)) ∧ pr_SChain p hi (ds.flatMap declCall) ∧ pr_LB hi rest) ∧
      TokensSorted rest ∧ ∀ d ∈ ds, d.RangesOk
  | 0, _, _, _, _, _, _, h => by cases h
  | n + 1, [], _, _, _, _, _, h => by cases h
  | n + 1, t :: tl, p, ds, rest, hs, hl, h => by
      rw [pt_varDecls_eq] at h
      rcases pr_ite h with h | h
      · cases h
        exact ⟨⟨p, .nil, le_refl p, hl.tail⟩, pr_sorted_tail hs, List.forall_mem_nil _⟩
      · obtain ⟨⟨d, sd, r1⟩, h1, h⟩ := Option.bind_eq_some_iff.mp h
        obtain ⟨ha, oka, ca⟩ := pr_varDecl_inv hs hl h1
        obtain ⟨⟨ds', r2⟩, h2, h⟩ := Option.bind_eq_some_iff.mp h
        obtain ⟨⟨hi, g1, g2, g3⟩, g4, g5⟩ := pr_varDecls_inv f n _ _ _ _ ha.sorted ha.lb h2
        cases h
        exact ⟨⟨hi, ha.cons g1, (ca.mono ha.lo ha.hi).append g2, g3⟩, g4, List.forall_mem_cons.mpr ⟨oka, g5⟩⟩

/-! ### programs -/

theorem pr_exists_lb : ∀ (ts : List Tok), TokensSorted ts → ∃ p, pr_LB p ts
  | [], _ => ⟨⟨0, 0⟩, fun _ h => by cases h⟩
  | _ :: _, hs => ⟨_, pr_sorted_lb_self hs⟩

theorem pr_program {f n : Nat} {p : Pos} {ds : List VarDecl} {ts : List Tok} {ss : List Statement}
    (hd : (∃ hi, pr_Chain p hi (ds.map (·.r)) ∧ pr_SChain p hi (ds.flatMap declCall) ∧ pr_LB hi ts) ∧
      TokensSorted ts ∧ ∀ d ∈ ds, d.RangesOk)
    (h : pStatements f n ts = some ss) :
    (⟨ds, ss⟩ : Program).RangesOk ∧ ∃ lo hi, pr_SChain lo hi (callRanges ⟨ds, ss⟩) := by
  obtain ⟨⟨mid, g1, g2, g3⟩, g4, g5⟩ := hd
  obtain ⟨⟨hi, k1, k2⟩, k3⟩ := pr_statements_inv f n _ _ _ g4 g3 h
  exact ⟨⟨g5, k3, (g1.append k1).ordered⟩, p, hi, g2.append k2⟩

theorem pr_parseTokens_inv (ts : List Tok) (p : Program) (hs : TokensSorted ts)
    (h : parseTokens ts = some p) : p.RangesOk ∧ ∃ lo hi, pr_SChain lo hi (callRanges p) := by
  obtain ⟨p0, hl⟩ := pr_exists_lb ts hs
  have plain : ∀ {f n}, ((pStatements f n ts).bind fun ss => some (⟨[], ss⟩ : Program)) = some p →
      p.RangesOk ∧ ∃ lo hi, pr_SChain lo hi (callRanges p) := by
    intro f n h
    obtain ⟨ss, h2, h⟩ := Option.bind_eq_some_iff.mp h
    cases h
    exact pr_program ⟨⟨p0, .nil, le_refl p0, hl⟩, hs, List.forall_mem_nil _⟩ h2
  rw [pt_parseTokens_eq] at h
  split at h
  · rename_i v lb tl
    rcases pr_ite h with h | h
    · replace h := pr_ite_none h
      obtain ⟨⟨ds, r1⟩, h1, h⟩ := Option.bind_eq_some_iff.mp h
      obtain ⟨ss, h2, h⟩ := Option.bind_eq_some_iff.mp h
      cases h
      have hv := pr_tok hs hl
      have hb := pr_tok hv.sorted hv.lb
      exact pr_program (pr_varDecls_inv _ _ _ _ _ _ hb.sorted hb.lb h1) h2
    · exact plain h
  · exact plain h

/-! ### nesting of expressions -/

theorem pr_contains_within {c P : Range} {p : Pos} (h : c.within P) (hp : c.contains p = true) :
    P.contains p = true := by
  simp only [Range.contains, Bool.and_eq_true, pr_le_iff] at hp ⊢
  exact ⟨le_trans h.1 hp.1, le_trans hp.2 h.2⟩

/-! ### the expressions of a well-formed tree are well-formed -/

theorem pr_allot_exprs : ∀ (a : AllotVal), a.RangesOk → ∀ e ∈ a.exprs, e.RangesOk
  | .nil, _ => List.forall_mem_nil _
  | .remaining _, _ => List.forall_mem_nil _
  | .portion _, h => List.forall_mem_singleton.mpr h

mutual
  theorem pr_source_exprs : ∀ (s : Source), s.RangesOk → ∀ e ∈ s.exprs, e.RangesOk
    | .nil, _ => List.forall_mem_nil _
    | .account _, h => List.forall_mem_singleton.mpr h
    | .overdraft _ _ none, h => List.forall_mem_singleton.mpr h.2
    | .overdraft _ _ (some _), h => List.forall_mem_cons.mpr ⟨h.2.1, List.forall_mem_singleton.mpr h.2.2⟩
    | .inorder _ srcs, h => pr_sources_exprs srcs h.2
    | .capped _ _ src, h => List.forall_mem_cons.mpr ⟨h.2.1, pr_source_exprs src h.2.2⟩
    | .allotment _ items, h => pr_srcItems_exprs items h.2
  theorem pr_sources_exprs : ∀ (ss : List Source), SourcesRangesOk ss → ∀ e ∈ sourcesExprs ss, e.RangesOk
    | [], _ => List.forall_mem_nil _
    | s :: ss, h => List.forall_mem_append.mpr ⟨pr_source_exprs s h.1, pr_sources_exprs ss h.2⟩
  theorem pr_srcItems_exprs : ∀ (items : List SrcItem), SrcItemsRangesOk items →
      ∀ e ∈ srcItemsExprs items, e.RangesOk
    | [], _ => List.forall_mem_nil _
    | (.mk _ a src) :: rest, h =>
        List.forall_mem_append.mpr ⟨List.forall_mem_append.mpr ⟨pr_allot_exprs a h.2.1, pr_source_exprs src h.2.2.1⟩,
          pr_srcItems_exprs rest h.2.2.2⟩
end

mutual
  theorem pr_dest_exprs : ∀ (d : Dest), d.RangesOk → ∀ e ∈ d.exprs, e.RangesOk
    | .nil, _ => List.forall_mem_nil _
    | .account _, h => List.forall_mem_singleton.mpr h
    | .inorder _ clauses k, h => List.forall_mem_append.mpr ⟨pr_clauses_exprs clauses h.2.1, pr_kod_exprs k h.2.2⟩
    | .allotment _ items, h => pr_dstItems_exprs items h.2
  theorem pr_kod_exprs : ∀ (k : KoD), k.RangesOk → ∀ e ∈ k.exprs, e.RangesOk
    | .nil, _ => List.forall_mem_nil _
    | .kept _, _ => List.forall_mem_nil _
    | .to d, h => pr_dest_exprs d h
  theorem pr_clauses_exprs : ∀ (cs : List DestClause), ClausesRangesOk cs → ∀ e ∈ clausesExprs cs, e.RangesOk
    | [], _ => List.forall_mem_nil _
    | (.mk _ _ k) :: rest, h =>
        List.forall_mem_append.mpr ⟨List.forall_mem_cons.mpr ⟨h.2.1, pr_kod_exprs k h.2.2.1⟩,
          pr_clauses_exprs rest h.2.2.2⟩
  theorem pr_dstItems_exprs : ∀ (items : List DestItem), DstItemsRangesOk items →
      ∀ e ∈ dstItemsExprs items, e.RangesOk
    | [], _ => List.forall_mem_nil _
    | (.mk _ a k) :: rest, h =>
        List.forall_mem_append.mpr ⟨List.forall_mem_append.mpr ⟨pr_allot_exprs a h.2.1, pr_kod_exprs k h.2.2.1⟩,
          pr_dstItems_exprs rest h.2.2.2⟩
end

theorem pr_sentValue_exprs : ∀ (sv : SentValue), sv.RangesOk → ∀ e ∈ sv.exprs, e.RangesOk
  | .nil, _ => List.forall_mem_nil _
  | .lit _ _, h => List.forall_mem_singleton.mpr h.2
  | .all _ _, h => List.forall_mem_singleton.mpr h.2

theorem pr_args_exprs : ∀ (es : List Expr), ExprsRangesOk es → ∀ e ∈ es, e.RangesOk
  | [], _ => List.forall_mem_nil _
  | _ :: xs, h => List.forall_mem_cons.mpr ⟨h.1, pr_args_exprs xs h.2⟩

theorem pr_statement_exprs : ∀ (s : Statement), s.RangesOk → ∀ e ∈ s.exprs, e.RangesOk
  | .nil, _ => List.forall_mem_nil _
  | .fnCallNil, _ => List.forall_mem_nil _
  | .send _ sv src dst, h =>
      List.forall_mem_append.mpr ⟨List.forall_mem_append.mpr ⟨pr_sentValue_exprs sv h.2.1, pr_source_exprs src h.2.2.1⟩,
        pr_dest_exprs dst h.2.2.2⟩
  | .save _ sv _, h => List.forall_mem_append.mpr ⟨pr_sentValue_exprs sv h.2.1, List.forall_mem_singleton.mpr h.2.2⟩
  | .fnCall c, h => pr_args_exprs c.args h.2

theorem pr_varDecl_exprs : ∀ (d : VarDecl), d.RangesOk → ∀ e ∈ d.exprs, e.RangesOk
  | ⟨_, _, _, none⟩, _ => List.forall_mem_nil _
  | ⟨_, some _, some _, some c⟩, h => pr_args_exprs c.args h.2.2

theorem pr_program_exprs (p : Program) (h : p.RangesOk) : ∀ e ∈ p.exprs, e.RangesOk := by
  intro e he
  simp only [Program.exprs, List.mem_append, List.mem_flatMap] at he
  rcases he with ⟨d, hd, he⟩ | ⟨s, hs, he⟩
  · exact pr_varDecl_exprs d (h.1 d hd) e he
  · exact pr_statement_exprs s (h.2.1 s hs) e he

end NS
