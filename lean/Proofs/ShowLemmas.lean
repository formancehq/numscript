/-
  Proofs/ShowLemmas.lean — error display (Model/Show.lean): `repeatStr` and `showError` do not
  panic on non-negative counts; and the position order `Pos.gtEq`, which the proofs about ranges use.
-/
import Model.Show

namespace NS

theorem sh_repeatStr_ne_panic (c : Char) (n : Int) (h : 0 ≤ n) (s : String) :
    repeatStr c n ≠ .panic s := by
  rw [repeatStr, if_neg (Int.not_lt.mpr h)]
  nofun

theorem sh_showError_ne_panic (r : Range) (srcLine : Nat) (line : List Char)
    (h : (if r.s.line = srcLine then (r.s.char : Int) else 0) ≤
         (if r.e.line = srcLine then (r.e.char : Int) else (byteLen line : Int))) (s : String) :
    showError r srcLine line ≠ .panic s := by
  have h0 : (0 : Int) ≤ if r.s.line = srcLine then (r.s.char : Int) else 0 := by split <;> omega
  unfold showError
  dsimp only
  split
  · next heq => exact absurd heq (sh_repeatStr_ne_panic _ _ (by omega) _)
  · nofun
  · split
    · next heq => exact absurd heq (sh_repeatStr_ne_panic _ _ h0 _)
    · nofun
    · nofun

/-- The shape of the two places where `showLoop` shows the line before and the line after the
    range: under a condition `c`, line `i` is looked up and a missing line is a panic. -/
theorem sh_neighbour_ne_panic (lines : List (List Char)) (i : Nat) (c : Prop) [Decidable c]
    (f : List Char → String) (b msg : String) (hi : c → i < lines.length) (s : String) :
    (if c then
      match lines[i]? with
      | some l => Outcome.ok (f l)
      | none => .panic msg
     else .ok b) ≠ .panic s := by
  split
  · rw [List.getElem?_eq_getElem (hi ‹c›)]; nofun
  · nofun

theorem sh_showLoop_ne_panic (r : Range) (lines : List (List Char))
    (hse : r.s.line ≤ r.e.line) (hlen : r.e.line < lines.length)
    (h1 : r.s.line = r.e.line → r.s.char ≤ r.e.char)
    (h2 : r.s.line < r.e.line → r.s.char ≤ byteLen (lines.getD r.s.line [])) :
    ∀ (rest : List (List Char)) (k : Nat) (buf : String) (pre post : List (List Char)),
      lines = pre ++ rest ++ post → pre.length = r.s.line + k →
      k + rest.length = r.e.line + 1 - r.s.line →
      ∀ s, showLoop r lines (r.e.line + 1 - r.s.line) k rest buf ≠ .panic s := by
  intro rest
  induction rest with
  | nil => intros; rw [showLoop]; nofun
  | cons line rest ih =>
    intro k buf pre post hl hp hk s
    have hline : lines[r.s.line + k]? = some line := by rw [hl, ← hp]; simp
    rw [List.length_cons] at hk
    rw [showLoop]
    split
    · next heq => exact absurd heq (sh_neighbour_ne_panic _ _ _ _ _ _ (by omega) _)
    · nofun
    split
    · next heq =>
      refine absurd heq (sh_showError_ne_panic _ _ _ ?_ _)
      rcases Nat.eq_zero_or_pos k with rfl | hk0
      · rw [Nat.add_zero] at hline ⊢
        rw [if_pos rfl]
        split
        · have := h1 (by omega); omega
        · have := h2 (by omega)
          rw [List.getD_eq_getElem?_getD, hline] at this
          exact Int.ofNat_le.mpr this
      · rw [if_neg (by omega)]
        split <;> omega
    · nofun
    dsimp only
    split
    · next heq => exact absurd heq (sh_neighbour_ne_panic _ _ _ _ _ _ (by omega) _)
    · nofun
    exact ih (k + 1) _ (pre ++ [line]) post (by rw [hl]; simp) (by simp; omega) (by omega) s

theorem sh_gtEq_iff (p q : Pos) :
    p.gtEq q = true ↔ (q.line < p.line ∨ (q.line = p.line ∧ q.char ≤ p.char)) := by
  unfold Pos.gtEq
  split <;> simp only [decide_eq_true_eq] <;> omega

end NS
