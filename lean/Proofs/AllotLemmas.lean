/-
  Proofs/AllotLemmas.lean — for property C06 (exact allotment split): the leftover loop,
  the floor shares, and what `makeAllotment` / `allotOf` return.
-/
import Spec.AllotSpec
import Spec.Draw
import Mathlib.Data.Rat.Floor
import Mathlib.Tactic.Ring
import Mathlib.Tactic.Linarith

namespace NS

theorem bump_of_nonpos (xs : List Int) {l : Int} (h : l ≤ 0) : bump xs l = xs := by
  cases xs with
  | nil => rfl
  | cons x t => rw [bump, if_pos h]

theorem bump_length (xs : List Int) (l : Int) : (bump xs l).length = xs.length := by
  induction xs generalizing l with
  | nil => rfl
  | cons x xs ih =>
    unfold bump
    split
    · rfl
    · simp [ih]

theorem bump_sum (xs : List Int) (l : Int) (h0 : 0 ≤ l) (h1 : l ≤ xs.length) :
    (bump xs l).sum = xs.sum + l := by
  induction xs generalizing l with
  | nil =>
    simp only [List.length_nil, Nat.cast_zero] at h1
    simp only [bump, List.sum_nil]
    omega
  | cons x xs ih =>
    simp only [List.length_cons, Nat.cast_add, Nat.cast_one] at h1
    unfold bump
    split
    · omega
    · rw [List.sum_cons, List.sum_cons, ih (l - 1) (by omega) (by omega)]
      omega

theorem bump_getElem? (xs : List Int) (l : Int) (i : Nat) (hi : i < xs.length) :
    (bump xs l)[i]? = some (xs.getD i 0 + (if (i : Int) < l then 1 else 0)) := by
  induction xs generalizing l i with
  | nil => simp at hi
  | cons x xs ih =>
    unfold bump
    split
    · have : ¬ ((i : Int) < l) := by omega
      simp [this, List.getD, List.getElem?_eq_getElem hi]
    · cases i with
      | zero =>
        have : (0 : Int) < l := by omega
        simp [this]
      | succ j =>
        simp only [List.getElem?_cons_succ, List.getD_cons_succ]
        rw [ih (l - 1) j (by simpa using hi)]
        have : ((j : Int) < l - 1) ↔ (((j + 1 : Nat) : Int) < l) := by omega
        simp only [this]

theorem bump_nonneg (xs : List Int) (l : Int) (h : ∀ x ∈ xs, 0 ≤ x) : ∀ x ∈ bump xs l, 0 ≤ x := by
  induction xs generalizing l with
  | nil => exact h
  | cons y t ih =>
    obtain ⟨hy, ht⟩ := List.forall_mem_cons.mp h
    unfold bump
    split
    · exact h
    · exact List.forall_mem_cons.mpr ⟨by omega, ih _ ht⟩

theorem floorShare_eq (n : Int) (p : Rat) : floorShare n p = ⌊p * (n : ℚ)⌋ := rfl

theorem floorShare_le (n : Int) (p : Rat) : ((floorShare n p : Int) : ℚ) ≤ p * n :=
  Int.floor_le _

theorem lt_floorShare_add_one (n : Int) (p : Rat) : p * n < ((floorShare n p : Int) : ℚ) + 1 :=
  Int.lt_floor_add_one _

theorem floorShare_nonneg (n : Int) (p : Rat) (hn : 0 ≤ n) (hp : 0 ≤ p) : 0 ≤ floorShare n p :=
  Int.floor_nonneg.mpr (mul_nonneg hp (by exact_mod_cast hn))

theorem floors_sum_le (n : Int) (ps : List Rat) :
    (((ps.map (floorShare n)).sum : Int) : ℚ) ≤ ps.sum * n := by
  induction ps with
  | nil => simp
  | cons p ps ih =>
    simp only [List.map_cons, List.sum_cons, Int.cast_add]
    have := floorShare_le n p
    linarith

theorem floors_sum_ge (n : Int) (ps : List Rat) :
    ps.sum * n ≤ (((ps.map (floorShare n)).sum : Int) : ℚ) + (ps.length : ℚ) := by
  induction ps with
  | nil => simp
  | cons p ps ih =>
    simp only [List.map_cons, List.sum_cons, Int.cast_add, List.length_cons, Nat.cast_add,
      Nat.cast_one]
    have := lt_floorShare_add_one n p
    linarith

theorem floors_sum_gt (n : Int) (ps : List Rat) (hne : ps ≠ []) :
    ps.sum * n < (((ps.map (floorShare n)).sum : Int) : ℚ) + (ps.length : ℚ) := by
  cases ps with
  | nil => exact absurd rfl hne
  | cons p ps =>
    simp only [List.map_cons, List.sum_cons, Int.cast_add, List.length_cons, Nat.cast_add,
      Nat.cast_one]
    have := lt_floorShare_add_one n p
    have := floors_sum_ge n ps
    linarith

theorem leftover_bounds (n : Int) (ps : List Rat) (hs : ps.sum = 1) :
    0 ≤ leftover n ps ∧ leftover n ps < ps.length := by
  have hne : ps ≠ [] := by
    rintro rfl
    simp at hs
  have h1 := floors_sum_le n ps
  have h2 := floors_sum_gt n ps hne
  rw [hs, one_mul] at h1 h2
  have h1 : (ps.map (floorShare n)).sum ≤ n := by exact_mod_cast h1
  have h2 : n < (ps.map (floorShare n)).sum + (ps.length : Int) := by exact_mod_cast h2
  unfold leftover
  omega

theorem allotParts_length (n : Int) (ps : List Rat) : (allotParts n ps).length = ps.length := by
  simp [allotParts, bump_length]

theorem allotParts_sum (n : Int) (ps : List Rat) (hs : ps.sum = 1) : (allotParts n ps).sum = n := by
  obtain ⟨h0, h1⟩ := leftover_bounds n ps hs
  unfold leftover at h0 h1
  unfold allotParts
  rw [bump_sum _ _ h0 (by simpa using h1.le)]
  omega

theorem allotParts_nonneg (n : Int) (ps : List Rat) (hn : 0 ≤ n) (hp : ∀ p ∈ ps, 0 ≤ p) :
    ∀ x ∈ allotParts n ps, 0 ≤ x := by
  apply bump_nonneg
  intro x hx
  obtain ⟨p, hpm, rfl⟩ := List.mem_map.mp hx
  exact floorShare_nonneg n p hn (hp p hpm)

theorem allotParts_zero (ps : List Rat) : ∀ x ∈ allotParts 0 ps, x = 0 := by
  have hf : ∀ x ∈ ps.map (floorShare 0), x = 0 := by
    intro x hx
    obtain ⟨p, _, rfl⟩ := List.mem_map.mp hx
    simp [floorShare_eq]
  simp only [allotParts, List.sum_eq_zero hf]
  rwa [bump_of_nonpos _ (by omega)]

theorem fillRemaining_length (r : Rat) (qs : List (Option Rat)) :
    (fillRemaining r qs).length = qs.length := by
  induction qs with
  | nil => rfl
  | cons q qs ih => cases q <;> simp [fillRemaining, ih]

theorem fillRemaining_sum_of_no_remaining (r : Rat) (qs : List (Option Rat))
    (h : qs.any Option.isNone = false) : (fillRemaining r qs).sum = sumSome qs := by
  induction qs with
  | nil => rfl
  | cons q qs ih =>
    cases q with
    | none => simp at h
    | some q =>
      simp only [List.any_cons, Option.isNone_some, Bool.false_or] at h
      simp [fillRemaining, sumSome, ih h]

theorem fillRemaining_sum_of_remaining (r : Rat) (qs : List (Option Rat))
    (h : qs.any Option.isNone = true) : (fillRemaining r qs).sum = sumSome qs + r := by
  induction qs with
  | nil => simp at h
  | cons q qs ih =>
    cases q with
    | some q =>
      simp only [List.any_cons, Option.isNone_some, Bool.false_or] at h
      simp only [fillRemaining, sumSome, List.sum_cons, ih h]
      ring
    | none =>
      simp only [fillRemaining, sumSome, List.sum_cons]
      cases h' : qs.any Option.isNone with
      | true => simp [ih h']
      | false => simp [fillRemaining_sum_of_no_remaining r qs h']; ring

theorem fillRemaining_mem_nonneg (r : Rat) (hr : 0 ≤ r) (qs : List (Option Rat))
    (hq : ∀ q, some q ∈ qs → 0 ≤ q) : ∀ p ∈ fillRemaining r qs, 0 ≤ p := by
  induction qs with
  | nil => simp [fillRemaining]
  | cons q qs ih =>
    have ih' := ih (fun q h => hq q (List.mem_cons_of_mem _ h))
    cases q with
    | some q => exact List.forall_mem_cons.mpr ⟨hq q (by simp), ih'⟩
    | none =>
      refine List.forall_mem_cons.mpr ⟨?_, ih'⟩
      split
      · exact le_rfl
      · exact hr

theorem evalAllotItems_length (vars : Vars) (items : List AllotVal) (qs : List (Option Rat))
    (h : evalAllotItems vars items = .ok qs) : qs.length = items.length := by
  induction items generalizing qs with
  | nil => cases h; rfl
  | cons a rest ih =>
    cases a with
    | nil => cases h
    | remaining r =>
      obtain ⟨tl, h1, h2⟩ := Outcome.bind_eq_ok h
      cases h2
      simp [ih tl h1]
    | portion e =>
      obtain ⟨q, _, h'⟩ := Outcome.bind_eq_ok h
      obtain ⟨tl, h1, h2⟩ := Outcome.bind_eq_ok h'
      cases h2
      simp [ih tl h1]

theorem makeAllotment_eq (vars : Vars) (n : Int) (items : List AllotVal) :
    makeAllotment vars n items = (evalAllotItems vars items >>= fun qs => allotOf n qs) := rfl

/-- `r` is what the `remaining` clause stands for -/
theorem allotOf_eq_ok {n : Int} {qs : List (Option Rat)} {parts : List Int}
    (h : allotOf n qs = .ok parts) :
    ∃ r, 0 ≤ r ∧ (fillRemaining r qs).sum = 1 ∧ parts = allotParts n (fillRemaining r qs) := by
  simp only [allotOf] at h
  split at h <;> split at h <;> cases h
  · rename_i hany hle
    exact ⟨_, by linarith, by rw [fillRemaining_sum_of_remaining _ _ hany]; ring, rfl⟩
  · rename_i hany hone
    refine ⟨0, le_rfl, ?_, rfl⟩
    rw [fillRemaining_sum_of_no_remaining _ _ (Bool.eq_false_iff.mpr hany)]
    exact not_not.mp hone

theorem allotOf_length (n : Int) (qs : List (Option Rat)) (parts : List Int)
    (h : allotOf n qs = .ok parts) : parts.length = qs.length := by
  obtain ⟨r, -, -, rfl⟩ := allotOf_eq_ok h
  rw [allotParts_length, fillRemaining_length]

theorem allotOf_sum (n : Int) (qs : List (Option Rat)) (parts : List Int)
    (h : allotOf n qs = .ok parts) : parts.sum = n := by
  obtain ⟨r, -, hs, rfl⟩ := allotOf_eq_ok h
  exact allotParts_sum n _ hs

theorem allotOf_nonneg (n : Int) (qs : List (Option Rat)) (parts : List Int) (hn : 0 ≤ n)
    (hq : ∀ q, some q ∈ qs → 0 ≤ q) (h : allotOf n qs = .ok parts) : ∀ x ∈ parts, 0 ≤ x := by
  obtain ⟨r, hr, -, rfl⟩ := allotOf_eq_ok h
  exact allotParts_nonneg n _ hn (fillRemaining_mem_nonneg r hr qs hq)

theorem allotOf_zero (qs : List (Option Rat)) (parts : List Int)
    (h : allotOf 0 qs = .ok parts) : ∀ p ∈ parts, p = 0 := by
  obtain ⟨r, -, -, rfl⟩ := allotOf_eq_ok h
  exact allotParts_zero _

theorem allotOf_err (n : Int) (qs : List (Option Rat)) (e : Err) (h : allotOf n qs = .err e) :
    e = .invalidAllotmentSum (sumSome qs) := by
  simp only [allotOf] at h
  split at h <;> split at h <;> cases h <;> rfl

end NS
