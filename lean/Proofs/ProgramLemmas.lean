/-
  Proofs/ProgramLemmas.lean — for the script-level theorems C01, C02, C03: values read keep
  `VarsWF`; `replay` as a per-account net effect (`pg_net`); the statement loop split at a
  statement.
-/
import Spec.ProgramSpec
import Proofs.LedgerLemmas
import Mathlib.Algebra.Order.Ring.Rat

namespace NS

theorem pg_lookupVar_cons (name : String) (v : Value) (vars : Vars) (name' : String) :
    lookupVar ((name, v) :: vars) name' = if name = name' then some v else lookupVar vars name' := by
  unfold lookupVar
  rw [List.find?_cons]
  by_cases h : name = name'
  · rw [if_pos h, show ((name, v).1 == name') = true from beq_iff_eq.2 h]
    rfl
  · rw [if_neg h, show ((name, v).1 == name') = false from beq_eq_false_iff_ne.2 h]

theorem pg_VarsWF_nil : VarsWF [] :=
  fun _ _ h => nomatch h

theorem pg_VarsWF_cons (name : String) (v : Value) (vars : Vars) (h0 : VarsWF vars)
    (hv : ∀ q, v = .portion q → 0 ≤ q ∧ q ≤ 1) : VarsWF ((name, v) :: vars) := by
  intro name' q h
  rw [pg_lookupVar_cons] at h
  split at h
  · injection h with h
    exact hv q h
  · exact h0 name' q h

theorem pg_ParsePortionSpecific_range (s : String) (q : Rat) (h : ParsePortionSpecific s = .ok q) :
    0 ≤ q ∧ q ≤ 1 := by
  unfold ParsePortionSpecific at h
  simp only at h
  split at h
  · cases h
  · cases h
  · cases h
  · split at h <;> cases h
    rename_i hr
    exact ⟨not_lt.mp fun hlt => hr (.inl hlt), not_lt.mp fun hlt => hr (.inr hlt)⟩

theorem pg_parseMonetary_not_portion (s : String) (q : Rat) : parseMonetary s ≠ .ok (.portion q) := by
  unfold parseMonetary
  intro h
  split at h
  · split at h <;> cases h
  · cases h

theorem pg_parseVar_portion (ty raw : String) (v : Value) (h : parseVar ty raw = .ok v) :
    ∀ q, v = .portion q → 0 ≤ q ∧ q ≤ 1 := by
  rintro q rfl
  unfold parseVar at h
  -- one `if` at a time: `split at h` on the whole chain is slow to check
  by_cases h1 : ty = "monetary"
  · rw [if_pos h1] at h
    exact absurd h (pg_parseMonetary_not_portion raw q)
  by_cases h2 : ty = "account"
  · rw [if_neg h1, if_pos h2] at h
    split at h <;> cases h
  by_cases h3 : ty = "portion"
  · rw [if_neg h1, if_neg h2, if_pos h3] at h
    split at h <;> cases h
    exact pg_ParsePortionSpecific_range raw q ‹_›
  rw [if_neg h1, if_neg h2, if_neg h3] at h
  by_cases h4 : ty = "asset"
  · rw [if_pos h4] at h
    cases h
  by_cases h5 : ty = "number"
  · rw [if_neg h4, if_pos h5] at h
    split at h <;> cases h
  by_cases h6 : ty = "string"
  · rw [if_neg h4, if_neg h5, if_pos h6] at h
    cases h
  · rw [if_neg h4, if_neg h5, if_neg h6] at h
    cases h

theorem pg_handleOrigin_portion (store : Store) (flag : Bool) (vars : Vars) (q0 q1 : QState)
    (ty : String) (fn : FnCall) (v : Value) (h : handleOrigin store flag vars q0 ty fn = .ok (v, q1)) :
    ∀ q, v = .portion q → 0 ≤ q ∧ q ≤ 1 := by
  unfold handleOrigin at h
  split at h <;> try cases h
  by_cases h1 : fn.name = "meta"
  · rw [if_pos h1] at h
    split at h <;> try cases h
    split at h <;> try cases h
    split at h <;> try cases h
    split at h <;> try cases h
    exact pg_parseVar_portion _ _ _ ‹_›
  by_cases h2 : fn.name = "balance"
  · rw [if_neg h1, if_pos h2] at h
    split at h <;> try cases h
    split at h <;> try cases h
    split at h <;> cases h
    exact fun _ hq => nomatch hq
  by_cases h3 : fn.name = "overdraft"
  · rw [if_neg h1, if_neg h2, if_pos h3] at h
    split at h <;> try cases h
    split at h <;> try cases h
    split at h <;> try cases h
    split at h <;> cases h <;> exact fun _ hq => nomatch hq
  · rw [if_neg h1, if_neg h2, if_neg h3] at h
    cases h

theorem pg_evalExpr_portion_nonneg (vars : Vars) (hw : VarsWF vars) (e : Expr) (q : Rat)
    (h : evalExpr vars e = .ok (.portion q)) : 0 ≤ q := by
  cases e <;> simp only [evalExpr, Outcome.ok.injEq, reduceCtorEq] at h
  case var r name =>
    split at h <;> cases h
    exact (hw name q ‹_›).1
  case ratio r num den =>
    split at h <;> cases h
    exact Rat.mkRat_nonneg (Int.natCast_nonneg num) den
  -- a monetary literal and an infix expression never evaluate to a portion
  all_goals repeat (split at h <;> try cases h)

theorem pg_evalAllotItems_nonneg (vars : Vars) (hw : VarsWF vars) :
    ∀ (items : List AllotVal) (qs : List (Option Rat)), evalAllotItems vars items = .ok qs →
      ∀ q, some q ∈ qs → 0 ≤ q
  | [], qs, h => by
      cases h
      nofun
  | .nil :: rest, qs, h => by cases h
  | .remaining _ :: rest, qs, h => by
      simp only [evalAllotItems] at h
      obtain ⟨tl, h1, h2⟩ := Outcome.bind_eq_ok h
      cases h2
      intro q hq
      simp only [List.mem_cons, reduceCtorEq, false_or] at hq
      exact pg_evalAllotItems_nonneg vars hw rest tl h1 q hq
  | .portion e :: rest, qs, h => by
      simp only [evalAllotItems] at h
      obtain ⟨q0, hq0, h'⟩ := Outcome.bind_eq_ok h
      obtain ⟨tl, h1, h2⟩ := Outcome.bind_eq_ok h'
      cases h2
      intro q hq
      simp only [List.mem_cons, Option.some.injEq] at hq
      rcases hq with hq | hq
      · subst hq
        unfold evalAs at hq0
        obtain ⟨v, hv, hv2⟩ := Outcome.bind_eq_ok hq0
        cases v <;> simp [expectPortion] at hv2
        subst hv2
        exact pg_evalExpr_portion_nonneg vars hw e _ hv
      · exact pg_evalAllotItems_nonneg vars hw rest tl h1 q hq

def pg_net (ps : List Posting) (a c : String) : Int :=
  creditsOf (ps.filter (fun p => p.asset = c)) a - debitsOf (ps.filter (fun p => p.asset = c)) a

theorem pg_net_nil (a c : String) : pg_net [] a c = 0 := rfl

theorem pg_net_append (p1 p2 : List Posting) (a c : String) :
    pg_net (p1 ++ p2) a c = pg_net p1 a c + pg_net p2 a c := by
  simp only [pg_net, debitsOf, creditsOf, List.filter_append, List.map_append, List.sum_append]
  omega

theorem pg_replay_shift (ps : List Posting) (B : Bal) (a c : String) :
    replay B ps a c = B a c + pg_net ps a c := by
  induction ps generalizing B with
  | nil => rw [replay, pg_net_nil, Int.add_zero]
  | cons p t ih =>
    rw [replay, ih, pg_net, pg_net]
    by_cases hc : p.asset = c
    · rw [List.filter_cons_of_pos (by simpa using hc), lg_creditsOf_cons, lg_debitsOf_cons]
      simp only [applyPosting, hc, and_true, eq_comm (a := a)]
      split <;> split <;> omega
    · rw [List.filter_cons_of_neg (by simpa using hc)]
      simp only [applyPosting, Ne.symm hc, and_false, if_false]

theorem pg_grantsOfStmts_single_some (vars : Vars) (s : Statement) (a c : String)
    (asset : String) (rs : RSource) (rd : RDest) (h : stmtSend vars s = some (asset, rs, rd)) :
    grantsOfStmts vars [s] a c = if asset = c then grantsOf a rs else [] := by
  simp [grantsOfStmts, h]

theorem pg_grantsOfStmts_single_none (vars : Vars) (s : Statement) (a c : String)
    (h : stmtSend vars s = none) : grantsOfStmts vars [s] a c = [] := by
  simp [grantsOfStmts, h]

theorem pg_unbInStmts_single_some (vars : Vars) (s : Statement) (a c : String)
    (asset : String) (rs : RSource) (rd : RDest) (h : stmtSend vars s = some (asset, rs, rd)) :
    unbInStmts vars [s] a c = (decide (asset = c) && unbIn a rs) := by
  simp [unbInStmts, h]

theorem pg_grantsOfStmts_cons (vars : Vars) (s : Statement) (ss : List Statement) (a c : String) :
    grantsOfStmts vars (s :: ss) a c = grantsOfStmts vars [s] a c ++ grantsOfStmts vars ss a c := by
  simp [grantsOfStmts]

theorem pg_unbInStmts_cons (vars : Vars) (s : Statement) (ss : List Statement) (a c : String) :
    unbInStmts vars (s :: ss) a c = (unbInStmts vars [s] a c || unbInStmts vars ss a c) := by
  simp [unbInStmts]

theorem pg_SendsResolve_head (vars : Vars) (s : Statement) (ss : List Statement)
    (h : SendsResolve vars (s :: ss)) : SendsResolve vars [s] :=
  fun x hx => h x (List.mem_singleton.1 hx ▸ List.mem_cons_self ..)

theorem pg_SendsResolve_tail (vars : Vars) (s : Statement) (ss : List Statement)
    (h : SendsResolve vars (s :: ss)) : SendsResolve vars ss :=
  fun x hx => h x (List.mem_cons_of_mem _ hx)

theorem pg_run_cons {vars : Vars} {s : Statement} {ss : List Statement} {st0 st : RState}
    {ps : List Posting} (h : runStatements vars (s :: ss) st0 = .ok (ps, st)) :
    ∃ p1 st1 p2, runStatement vars st0 s = .ok (p1, st1) ∧ runStatements vars ss st1 = .ok (p2, st) ∧
      ps = p1 ++ p2 := by
  rw [runStatements] at h
  split at h <;> try cases h
  split at h <;> cases h
  exact ⟨_, _, _, ‹_›, ‹_›, rfl⟩

theorem pg_run_append {vars : Vars} {s1 s2 : List Statement} {st0 st : RState} {ps : List Posting}
    (h : runStatements vars (s1 ++ s2) st0 = .ok (ps, st)) :
    ∃ p1 st1 p2, runStatements vars s1 st0 = .ok (p1, st1) ∧ runStatements vars s2 st1 = .ok (p2, st) ∧
      ps = p1 ++ p2 := by
  rw [lg_run_append] at h
  split at h <;> try cases h
  split at h <;> cases h
  exact ⟨_, _, _, ‹_›, ‹_›, rfl⟩

/-- the overdraft floor across two stretches of postings with net effects `n1`, `n2`: the first
    starts from a visible balance `c ≤ B`, the second from where the first ends -/
theorem pg_floor_step {B c n1 n2 G1 G2 : Int} (hc : c ≤ B) (h1 : min 0 (-c - G1) ≤ n1)
    (h2 : min (B + n1) (-G2) ≤ B + n1 + n2) : min B (-(max G1 G2)) ≤ B + (n1 + n2) := by
  rw [min_le_iff] at h1 h2 ⊢
  omega

end NS
