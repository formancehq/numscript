/-
  For Properties/EndToEnd.lean: complete trees are benign (every level of the tree), every maximal
  expression of a complete program is complete, and hover on a complete expression does not panic.
-/
import Proofs.AnalysisLemmas
import Spec.Complete
import Spec.ParseSpec

namespace NS

theorem ee_expr_benign : ∀ (e : Expr), e.Complete → e.Benign
  | .monetary _ a n, h => ⟨ee_expr_benign a h.1, ee_expr_benign n h.2⟩
  | .infix _ _ l r, h => ⟨ee_expr_benign l h.1, ee_expr_benign r h.2⟩
  | .var .., _ | .asset .., _ | .account .., _ | .str .., _ | .number .., _ | .ratio .., _ => trivial

theorem ee_ne_nil {e : Expr} (h : e.Complete) : e ≠ .nil := by
  rintro rfl
  exact h

theorem ee_ne_monetaryNil {e : Expr} (h : e.Complete) : e ≠ .monetaryNil := by
  rintro rfl
  exact h

theorem ee_exprs_benign : ∀ (es : List Expr), ExprsComplete es → ExprsBenign es
  | [], _ => trivial
  | e :: es, h => ⟨ee_expr_benign e h.1, ee_exprs_benign es h.2⟩

theorem ee_allot_benign : ∀ (a : AllotVal), a.Complete → a.Benign
  | .remaining _, _ => trivial
  | .portion e, h => ee_expr_benign e h

mutual
  theorem ee_source_benign : ∀ (s : Source), s.Complete → s.Benign
    | .account e, h => ⟨ee_ne_nil h, ee_expr_benign e h⟩
    | .overdraft _ addr none, h => ⟨ee_ne_nil h, ee_expr_benign addr h⟩
    | .overdraft _ addr (some b), h =>
        ⟨ee_ne_nil h.1, ee_expr_benign addr h.1, ee_expr_benign b h.2⟩
    | .inorder _ srcs, h => ee_sources_benign srcs h
    | .capped _ cap src, h => ⟨ee_expr_benign cap h.1, ee_source_benign src h.2⟩
    | .allotment _ items, h => ee_srcItems_benign items h
  theorem ee_sources_benign : ∀ (ss : List Source), SourcesComplete ss → SourcesBenign ss
    | [], _ => trivial
    | s :: ss, h => ⟨ee_source_benign s h.1, ee_sources_benign ss h.2⟩
  theorem ee_srcItems_benign : ∀ (is : List SrcItem), SrcItemsComplete is → SrcItemsBenign is
    | [], _ => trivial
    | (.mk _ a src) :: rest, h =>
        ⟨ee_allot_benign a h.1, ee_source_benign src h.2.1, ee_srcItems_benign rest h.2.2⟩
end

mutual
  theorem ee_dest_benign : ∀ (d : Dest), d.Complete → d.Benign
    | .account e, h => ⟨ee_ne_nil h, ee_expr_benign e h⟩
    | .inorder _ clauses remaining, h => ⟨ee_clauses_benign clauses h.1, ee_kod_benign remaining h.2⟩
    | .allotment _ items, h => ee_dstItems_benign items h
  theorem ee_kod_benign : ∀ (k : KoD), k.Complete → k.Benign
    | .kept _, _ => trivial
    | .to d, h => ee_dest_benign d h
  theorem ee_clauses_benign : ∀ (cs : List DestClause), ClausesComplete cs → ClausesBenign cs
    | [], _ => trivial
    | (.mk _ cap k) :: rest, h =>
        ⟨ee_expr_benign cap h.1, ee_kod_benign k h.2.1, ee_clauses_benign rest h.2.2⟩
  theorem ee_dstItems_benign : ∀ (is : List DestItem), DstItemsComplete is → DstItemsBenign is
    | [], _ => trivial
    | (.mk _ a k) :: rest, h =>
        ⟨ee_allot_benign a h.1, ee_kod_benign k h.2.1, ee_dstItems_benign rest h.2.2⟩
end

theorem ee_sent_benign : ∀ (sv : SentValue), sv.Complete → sv.Benign
  | .lit _ m, h => ee_expr_benign m h
  | .all _ a, h => ee_expr_benign a h

theorem ee_statement_benign : ∀ (st : Statement), st.Complete → st.Benign
  | .send _ sv src dst, h => ⟨ee_sent_benign sv h.1, ee_source_benign src h.2.1, ee_dest_benign dst h.2.2⟩
  | .save _ sv amount, h => ⟨ee_sent_benign sv h.1, ee_expr_benign amount h.2⟩
  | .fnCall fn, h => ee_exprs_benign fn.args h

theorem ee_statements_benign : ∀ (ss : List Statement), StatementsComplete ss → StatementsBenign ss
  | [], _ => trivial
  | s :: ss, h => ⟨ee_statement_benign s h.1, ee_statements_benign ss h.2⟩

theorem ee_varDecl_benign (d : VarDecl) (h : d.Complete) : d.Benign :=
  ⟨fun _ => h.2.1, fun fn hfn => ee_exprs_benign fn.args (h.2.2 fn hfn)⟩

theorem ee_varDecls_benign : ∀ (ds : List VarDecl), VarDeclsComplete ds → VarDeclsBenign ds
  | [], _ => trivial
  | d :: ds, h => ⟨ee_varDecl_benign d h.1, ee_varDecls_benign ds h.2⟩

theorem ee_program_benign (p : Program) (h : p.Complete) : p.Benign :=
  ⟨ee_varDecls_benign p.vars h.1, ee_statements_benign p.stmts h.2⟩

theorem ee_exprs_mem : ∀ (es : List Expr), ExprsComplete es → ∀ e ∈ es, e.Complete
  | [], _ => nofun
  | _ :: xs, h => List.forall_mem_cons.mpr ⟨h.1, ee_exprs_mem xs h.2⟩

theorem ee_allot_exprs : ∀ (a : AllotVal), a.Complete → ∀ e ∈ a.exprs, e.Complete
  | .remaining _, _ => nofun
  | .portion _, h => List.forall_mem_singleton.mpr h

mutual
  theorem ee_source_exprs : ∀ (s : Source), s.Complete → ∀ e ∈ s.exprs, e.Complete
    | .account _, h => List.forall_mem_singleton.mpr h
    | .overdraft _ _ none, h => List.forall_mem_singleton.mpr h
    | .overdraft _ _ (some _), h => List.forall_mem_cons.mpr ⟨h.1, List.forall_mem_singleton.mpr h.2⟩
    | .inorder _ srcs, h => ee_sources_exprs srcs h
    | .capped _ _ src, h => List.forall_mem_cons.mpr ⟨h.1, ee_source_exprs src h.2⟩
    | .allotment _ items, h => ee_srcItems_exprs items h
  theorem ee_sources_exprs : ∀ (ss : List Source), SourcesComplete ss → ∀ e ∈ sourcesExprs ss, e.Complete
    | [], _ => nofun
    | s :: ss, h => List.forall_mem_append.mpr ⟨ee_source_exprs s h.1, ee_sources_exprs ss h.2⟩
  theorem ee_srcItems_exprs : ∀ (is : List SrcItem), SrcItemsComplete is → ∀ e ∈ srcItemsExprs is, e.Complete
    | [], _ => nofun
    | (.mk _ a src) :: rest, h =>
        List.forall_mem_append.mpr ⟨List.forall_mem_append.mpr ⟨ee_allot_exprs a h.1, ee_source_exprs src h.2.1⟩,
          ee_srcItems_exprs rest h.2.2⟩
end

mutual
  theorem ee_dest_exprs : ∀ (d : Dest), d.Complete → ∀ e ∈ d.exprs, e.Complete
    | .account _, h => List.forall_mem_singleton.mpr h
    | .inorder _ clauses remaining, h =>
        List.forall_mem_append.mpr ⟨ee_clauses_exprs clauses h.1, ee_kod_exprs remaining h.2⟩
    | .allotment _ items, h => ee_dstItems_exprs items h
  theorem ee_kod_exprs : ∀ (k : KoD), k.Complete → ∀ e ∈ k.exprs, e.Complete
    | .kept _, _ => nofun
    | .to d, h => ee_dest_exprs d h
  theorem ee_clauses_exprs : ∀ (cs : List DestClause), ClausesComplete cs → ∀ e ∈ clausesExprs cs, e.Complete
    | [], _ => nofun
    | (.mk _ _ k) :: rest, h =>
        List.forall_mem_append.mpr ⟨List.forall_mem_cons.mpr ⟨h.1, ee_kod_exprs k h.2.1⟩,
          ee_clauses_exprs rest h.2.2⟩
  theorem ee_dstItems_exprs : ∀ (is : List DestItem), DstItemsComplete is → ∀ e ∈ dstItemsExprs is, e.Complete
    | [], _ => nofun
    | (.mk _ a k) :: rest, h =>
        List.forall_mem_append.mpr ⟨List.forall_mem_append.mpr ⟨ee_allot_exprs a h.1, ee_kod_exprs k h.2.1⟩,
          ee_dstItems_exprs rest h.2.2⟩
end

theorem ee_sent_exprs : ∀ (sv : SentValue), sv.Complete → ∀ e ∈ sv.exprs, e.Complete
  | .lit _ _, h | .all _ _, h => List.forall_mem_singleton.mpr h

theorem ee_statement_exprs : ∀ (st : Statement), st.Complete → ∀ e ∈ st.exprs, e.Complete
  | .send _ sv src dst, h =>
      List.forall_mem_append.mpr ⟨List.forall_mem_append.mpr ⟨ee_sent_exprs sv h.1, ee_source_exprs src h.2.1⟩,
        ee_dest_exprs dst h.2.2⟩
  | .save _ sv _, h => List.forall_mem_append.mpr ⟨ee_sent_exprs sv h.1, List.forall_mem_singleton.mpr h.2⟩
  | .fnCall fn, h => ee_exprs_mem fn.args h

theorem ee_statements_mem : ∀ (ss : List Statement), StatementsComplete ss → ∀ s ∈ ss, s.Complete
  | [], _ => nofun
  | _ :: xs, h => List.forall_mem_cons.mpr ⟨h.1, ee_statements_mem xs h.2⟩

theorem ee_varDecls_mem : ∀ (ds : List VarDecl), VarDeclsComplete ds → ∀ d ∈ ds, d.Complete
  | [], _ => nofun
  | _ :: xs, h => List.forall_mem_cons.mpr ⟨h.1, ee_varDecls_mem xs h.2⟩

theorem ee_varDecl_exprs (d : VarDecl) (h : d.Complete) : ∀ e ∈ d.exprs, e.Complete := by
  unfold VarDecl.exprs
  split
  · exact ee_exprs_mem _ (h.2.2 _ ‹_›)
  · nofun

theorem ee_program_exprs (p : Program) (h : p.Complete) : ∀ e ∈ p.exprs, e.Complete := by
  intro e he
  simp only [Program.exprs, List.mem_append, List.mem_flatMap] at he
  rcases he with ⟨d, hd, he⟩ | ⟨s, hs, he⟩
  · exact ee_varDecl_exprs d (ee_varDecls_mem p.vars h.1 d hd) e he
  · exact ee_statement_exprs s (ee_statements_mem p.stmts h.2 s hs) e he

theorem ee_hover_ne_panic (e : Expr) (h : e.Complete) (pos : Pos) (s : String) :
    hoverOnExpression e pos ≠ .panic s :=
  an_isOk_ne_panic (an_hoverOnExpression_ok pos e (ee_expr_benign e h)) s

end NS
