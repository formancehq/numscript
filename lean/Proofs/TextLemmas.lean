/-
  Proofs/TextLemmas.lean — the text functions of Model/Text.lean on the inputs the properties
  speak of: numerals, the matchers for `n/d` and `p.q%`, `ParsePortionSpecific` (`tx_pps_`)
  given what the matchers find, and reading back a rendered value.
-/
import Model.Text
import Mathlib.Algebra.Order.Field.Rat
import Mathlib.Algebra.Order.Field.Basic
import Mathlib.Tactic.Ring

namespace NS

theorem tx_foldl_digits_from (ds : List Char) (a : Nat) :
    List.foldl (fun acc c => acc * 10 + digitVal c) a ds = a * 10 ^ ds.length + digitsVal ds := by
  induction ds generalizing a with
  | nil => simp [digitsVal]
  | cons c t ih =>
    simp only [digitsVal, List.foldl_cons, List.length_cons] at ih ⊢
    rw [ih (a * 10 + digitVal c), ih (0 * 10 + digitVal c)]
    ring

theorem tx_digitsVal_nil : digitsVal [] = 0 := rfl

theorem tx_digitsVal_append (a b : List Char) :
    digitsVal (a ++ b) = digitsVal a * 10 ^ b.length + digitsVal b := by
  rw [digitsVal, List.foldl_append, tx_foldl_digits_from]
  rfl

theorem tx_digitsVal_cons (c : Char) (t : List Char) :
    digitsVal (c :: t) = digitVal c * 10 ^ t.length + digitsVal t := by
  rw [← List.singleton_append, tx_digitsVal_append]
  simp [digitsVal]

theorem tx_digitsVal_eq_ofDigitChars (l : List Char) : digitsVal l = Nat.ofDigitChars 10 l 0 := by
  unfold digitsVal Nat.ofDigitChars
  congr 1
  funext a c
  unfold digitVal
  omega

theorem tx_digitsVal_toDigits (n : Nat) : digitsVal (Nat.toDigits 10 n) = n := by
  rw [tx_digitsVal_eq_ofDigitChars, Nat.ofDigitChars_ten_toDigits]

theorem tx_all_isDigit_toDigits (n : Nat) : (Nat.toDigits 10 n).all isDigit = true :=
  List.all_eq_true.mpr fun _ hc => Nat.isDigit_of_mem_toDigits (by decide) (by decide) hc

theorem tx_takeWhile_digits (n : List Char) (c : Char) (rest : List Char)
    (hn : n.all isDigit = true) (hc : isDigit c = false) :
    (n ++ c :: rest).takeWhile isDigit = n := by
  rw [List.takeWhile_append_of_pos (List.all_eq_true.mp hn),
    List.takeWhile_cons_of_neg (by simp [hc]), List.append_nil]

theorem tx_dropWhile_digits (n : List Char) (c : Char) (rest : List Char)
    (hn : n.all isDigit = true) (hc : isDigit c = false) :
    (n ++ c :: rest).dropWhile isDigit = c :: rest := by
  rw [List.dropWhile_append_of_pos (List.all_eq_true.mp hn),
    List.dropWhile_cons_of_neg (by simp [hc])]

theorem tx_takeWhile_all (n : List Char) (hn : n.all isDigit = true) :
    n.takeWhile isDigit = n := by
  simpa using List.takeWhile_append_of_pos (l₂ := []) (List.all_eq_true.mp hn)

theorem tx_dropWhile_all (n : List Char) (hn : n.all isDigit = true) :
    n.dropWhile isDigit = [] := by
  simpa using List.dropWhile_append_of_pos (l₂ := []) (List.all_eq_true.mp hn)

theorem tx_head_digit (d : List Char) (hd : d ≠ []) (hdd : d.all isDigit = true) :
    ∃ c t, d = c :: t ∧ isDigit c = true := by
  obtain ⟨c, t, rfl⟩ := List.exists_cons_of_ne_nil hd
  exact ⟨c, t, rfl, (List.all_eq_true.mp hdd) c List.mem_cons_self⟩

theorem tx_ratioLiteral_blank (n rest : List Char) (hnd : n.all isDigit = true) :
    ratioLiteral (n ++ ' ' :: '/' :: rest) = ratioLiteral (n ++ '/' :: rest) := by
  unfold ratioLiteral
  rw [tx_takeWhile_digits n _ _ hnd (by decide), tx_dropWhile_digits n _ _ hnd (by decide),
    tx_takeWhile_digits n _ _ hnd (by decide), tx_dropWhile_digits n _ _ hnd (by decide)]
  rfl

theorem tx_ratioLiteral (n d : List Char) (hn : n ≠ []) (hnd : n.all isDigit = true)
    (hd : d ≠ []) (hdd : d.all isDigit = true) (b1 b2 : Bool) :
    ratioLiteral (n ++ (if b1 then [' '] else []) ++ ['/'] ++ (if b2 then [' '] else []) ++ d)
      = some (digitsVal n, digitsVal d) := by
  obtain ⟨c, t, rfl, hc⟩ := tx_head_digit d hd hdd
  have hcs : c ≠ ' ' := by rintro rfl; cases hc
  have key : ratioLiteral (n ++ '/' :: ((if b2 then [' '] else []) ++ c :: t))
      = some (digitsVal n, digitsVal (c :: t)) := by
    unfold ratioLiteral
    rw [tx_takeWhile_digits n _ _ hnd (by decide), tx_dropWhile_digits n _ _ hnd (by decide)]
    cases b2 <;> simp [hn, hdd, hcs]
  cases b1
  · simpa using key
  · simpa [tx_ratioLiteral_blank n _ hnd] using key

theorem tx_matchFraction_blank (n rest : List Char) (hnd : n.all isDigit = true) :
    matchFraction (n ++ ' ' :: '/' :: rest) = matchFraction (n ++ '/' :: rest) := by
  unfold matchFraction
  rw [tx_takeWhile_digits n _ _ hnd (by decide), tx_dropWhile_digits n _ _ hnd (by decide),
    tx_takeWhile_digits n _ _ hnd (by decide), tx_dropWhile_digits n _ _ hnd (by decide)]
  rfl

theorem tx_matchFraction (n d : List Char) (hn : n ≠ []) (hnd : n.all isDigit = true)
    (hd : d ≠ []) (hdd : d.all isDigit = true) (b1 b2 : Bool) :
    matchFraction (n ++ (if b1 then [' '] else []) ++ ['/'] ++ (if b2 then [' '] else []) ++ d)
      = some (n, d) := by
  obtain ⟨c, t, rfl, hc⟩ := tx_head_digit d hd hdd
  have hcs : isReSpace c = false := by
    rw [Bool.eq_false_iff]
    intro h
    simp only [isReSpace, Bool.or_eq_true, decide_eq_true_eq] at h
    rcases h with (((rfl | rfl) | rfl) | rfl) | rfl <;> cases hc
  have key : matchFraction (n ++ '/' :: ((if b2 then [' '] else []) ++ c :: t))
      = some (n, c :: t) := by
    unfold matchFraction
    rw [tx_takeWhile_digits n _ _ hnd (by decide), tx_dropWhile_digits n _ _ hnd (by decide)]
    cases b2 <;> simp [hn, hdd, dropOneSpace, hcs, show isReSpace ' ' = true from rfl,
      show isReSpace '/' = false from rfl]
  cases b1
  · simpa using key
  · simpa [tx_matchFraction_blank n _ hnd] using key

theorem tx_matchPercent_int (p : List Char) (hp : p ≠ []) (hpd : p.all isDigit = true) :
    matchPercent (p ++ ['%']) = some (p, []) := by
  unfold matchPercent
  rw [tx_takeWhile_digits p _ _ hpd (by decide), tx_dropWhile_digits p _ _ hpd (by decide)]
  simp [hp]

theorem tx_matchPercent_frac (p q : List Char) (hp : p ≠ []) (hpd : p.all isDigit = true)
    (hq : q ≠ []) (hqd : q.all isDigit = true) :
    matchPercent (p ++ '.' :: (q ++ ['%'])) = some (p, q) := by
  unfold matchPercent
  rw [tx_takeWhile_digits p _ _ hpd (by decide), tx_dropWhile_digits p _ _ hpd (by decide)]
  simp only [hp, if_false]
  rw [tx_takeWhile_digits q _ _ hqd (by decide), tx_dropWhile_digits q _ _ hqd (by decide)]
  simp [hq]

theorem tx_matchPercent_none (n : List Char) (c : Char) (rest : List Char)
    (hnd : n.all isDigit = true) (hc : isDigit c = false) (h1 : c ≠ '%') (h2 : c ≠ '.') :
    matchPercent (n ++ c :: rest) = none := by
  unfold matchPercent
  rw [tx_takeWhile_digits n _ _ hnd hc, tx_dropWhile_digits n _ _ hnd hc]
  simp [h1, h2]

theorem tx_matchPercent_ratio_none (n d : List Char) (hnd : n.all isDigit = true) (b1 b2 : Bool) :
    matchPercent (n ++ (if b1 then [' '] else []) ++ ['/'] ++ (if b2 then [' '] else []) ++ d)
      = none := by
  cases b1
  · simpa using tx_matchPercent_none n '/' _ hnd (by decide) (by decide) (by decide)
  · simpa using tx_matchPercent_none n ' ' ('/' :: _) hnd (by decide) (by decide) (by decide)

theorem tx_mkRat_le_one (a b : Nat) (hb : b ≠ 0) : mkRat (a : Int) b ≤ 1 ↔ a ≤ b := by
  have : (0 : Rat) < (b : Rat) := by exact_mod_cast Nat.pos_of_ne_zero hb
  rw [Rat.mkRat_eq_div, div_le_one this]
  simp

/-- the range check accepts `a/b` with `a ≤ b` -/
theorem tx_mkRat_in_range (a b : Nat) (hb : b ≠ 0) (hle : a ≤ b) :
    ¬ (mkRat (a : Int) b < 0 ∨ mkRat (a : Int) b > 1) :=
  fun h => h.elim (not_lt.2 (Rat.mkRat_nonneg (Int.natCast_nonneg a) b)) (not_lt.2 ((tx_mkRat_le_one a b hb).2 hle))

theorem tx_pps_fraction_ok (cs n d : List Char) (hp : matchPercent cs = none)
    (hf : matchFraction cs = some (n, d)) (hz : digitsVal d ≠ 0)
    (hle : digitsVal n ≤ digitsVal d) :
    ParsePortionSpecific (String.ofList cs) = .ok (mkRat (digitsVal n) (digitsVal d)) := by
  unfold ParsePortionSpecific
  simp only [String.toList_ofList, hp, hf, hz, if_false]
  rw [if_neg (tx_mkRat_in_range _ _ hz hle)]

theorem tx_pps_fraction_bad (cs n d : List Char) (hp : matchPercent cs = none)
    (hf : matchFraction cs = some (n, d))
    (hbad : digitsVal d = 0 ∨ digitsVal d < digitsVal n) :
    ∃ reason, ParsePortionSpecific (String.ofList cs) = .err (.badPortionParsing reason) := by
  unfold ParsePortionSpecific
  simp only [String.toList_ofList, hp, hf]
  by_cases hz : digitsVal d = 0
  · rw [if_pos hz]
    exact ⟨_, rfl⟩
  · have h1 := (tx_mkRat_le_one (digitsVal n) (digitsVal d) hz).not.2 (not_le.2 (hbad.resolve_left hz))
    rw [if_neg hz]
    dsimp only
    rw [if_pos (Or.inr (not_le.1 h1))]
    exact ⟨_, rfl⟩

theorem tx_pps_percent_ok (cs i f : List Char) (hp : matchPercent cs = some (i, f))
    (hle : digitsVal (i ++ f) ≤ 10 ^ (2 + f.length)) :
    ParsePortionSpecific (String.ofList cs) =
      .ok (mkRat (digitsVal (i ++ f)) (10 ^ (2 + f.length))) := by
  unfold ParsePortionSpecific
  simp only [String.toList_ofList, hp, percentValue, pow10]
  rw [if_neg (tx_mkRat_in_range _ _ (pow_ne_zero _ (by decide)) hle)]

theorem tx_toString_int (n : Int) :
    (toString n).toList =
      if 0 ≤ n then Nat.toDigits 10 n.toNat else '-' :: Nat.toDigits 10 (-n).toNat := by
  rw [Int.toString_eq_repr, Int.repr_eq_if]
  split <;> simp [String.toList_append]

theorem tx_parseNat_toDigits (n : Nat) : parseNat? (Nat.toDigits 10 n) = some n := by
  rw [parseNat?, if_pos ⟨Nat.toDigits_ne_nil, tx_all_isDigit_toDigits n⟩, tx_digitsVal_toDigits]

theorem tx_parseInt_toString (n : Int) : parseInt? (toString n) = some n := by
  unfold parseInt?
  rw [tx_toString_int]
  by_cases h : 0 ≤ n
  · obtain ⟨c, t, hct, hc⟩ := tx_head_digit _ Nat.toDigits_ne_nil (tx_all_isDigit_toDigits n.toNat)
    have h1 : c ≠ '-' := by rintro rfl; exact absurd hc (by decide)
    have h2 : c ≠ '+' := by rintro rfl; exact absurd hc (by decide)
    have hp := tx_parseNat_toDigits n.toNat
    rw [hct] at hp
    simp [h, hct, h1, h2, hp, Int.toNat_of_nonneg h]
  · simp only [if_neg h, tx_parseNat_toDigits]
    simp
    omega

theorem tx_split_go_nospace (cur l : List Char) (h : ' ' ∉ l) :
    splitOnSpace.go cur l = [cur.reverse ++ l] := by
  induction l generalizing cur with
  | nil => simp [splitOnSpace.go]
  | cons c t ih =>
    rw [List.mem_cons, not_or] at h
    simp [splitOnSpace.go, Ne.symm h.1, ih _ h.2]

theorem tx_split_go_space (cur l r : List Char) (h : ' ' ∉ l) :
    splitOnSpace.go cur (l ++ ' ' :: r) = (cur.reverse ++ l) :: splitOnSpace.go [] r := by
  induction l generalizing cur with
  | nil => simp [splitOnSpace.go]
  | cons c t ih =>
    rw [List.mem_cons, not_or] at h
    simp [splitOnSpace.go, Ne.symm h.1, ih _ h.2]

theorem tx_splitOnSpace_two (l r : List Char) (hl : ' ' ∉ l) (hr : ' ' ∉ r) :
    splitOnSpace (l ++ ' ' :: r) = [l, r] := by
  rw [splitOnSpace, tx_split_go_space _ _ _ hl, tx_split_go_nospace _ _ hr]
  rfl

theorem tx_space_notin_toString_int (n : Int) : ' ' ∉ (toString n).toList := by
  have hd (k : Nat) : ' ' ∉ Nat.toDigits 10 k := fun hm =>
    absurd (List.all_eq_true.mp (tx_all_isDigit_toDigits k) _ hm) (by decide)
  rw [tx_toString_int]
  split
  · exact hd _
  · rw [List.mem_cons, not_or]
    exact ⟨by decide, hd _⟩

theorem tx_parseMonetary_render (a : String) (n : Int) (ha : ' ' ∉ a.toList) :
    parseMonetary (a ++ " " ++ toString n) = .ok (.monetary a n) := by
  have : (a ++ " " ++ toString n).toList = a.toList ++ ' ' :: (toString n).toList := by
    simp [String.toList_append]
  rw [parseMonetary, this, tx_splitOnSpace_two _ _ ha (tx_space_notin_toString_int n)]
  simp only [String.ofList_toList, tx_parseInt_toString]

theorem tx_pps_renderRat (q : Rat) (h0 : 0 ≤ q) (h1 : q ≤ 1) :
    ParsePortionSpecific (renderRat q) = .ok q := by
  have hnum : 0 ≤ q.num := Rat.num_nonneg.2 h0
  have hq : mkRat ((q.num.toNat : Nat) : Int) q.den = q := by
    rw [Int.toNat_of_nonneg hnum]; exact Rat.mkRat_self q
  have hle : q.num.toNat ≤ q.den := by
    rw [← tx_mkRat_le_one _ _ q.den_nz, hq]; exact h1
  have hs : renderRat q = String.ofList (Nat.toDigits 10 q.num.toNat ++ '/' ::
      Nat.toDigits 10 q.den) := by
    rw [← String.toList_inj]
    simp [renderRat, String.toList_append, Int.repr_eq_if, hnum, show toString "/" = "/" from rfl]
  have hd1 := tx_all_isDigit_toDigits q.num.toNat
  have hd2 := tx_all_isDigit_toDigits q.den
  rw [hs, tx_pps_fraction_ok _ _ _ (tx_matchPercent_none _ '/' _ hd1 (by decide) (by decide) (by decide))
    (by simpa using tx_matchFraction _ _ Nat.toDigits_ne_nil hd1 Nat.toDigits_ne_nil hd2 false false)]
  · rw [tx_digitsVal_toDigits, tx_digitsVal_toDigits, hq]
  · rw [tx_digitsVal_toDigits]; exact q.den_nz
  · rw [tx_digitsVal_toDigits, tx_digitsVal_toDigits]; exact hle

end NS
