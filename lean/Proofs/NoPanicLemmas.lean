/-
  For property C12: on complete syntax trees no function of the interpreter model reaches a panic site.

  The model threads outcomes through `match o with | .panic s => .panic s | .err e => .err e
  | .ok v => …`.  `NoPanic.elim` takes such a match apart at an outcome known not to panic; a goal
  that still shows `match .ok v with …` afterwards is reduced by `dsimp only` before the next step.
-/
import Spec.Complete
import Model.Run
import Proofs.AllotLemmas
import Proofs.AnalysisLemmas

namespace NS

def NoPanic {α : Type} (o : Outcome α) : Prop := ∀ s, o ≠ .panic s

@[simp] theorem np_ok {α} (a : α) : NoPanic (Outcome.ok a) := by intro s h; cases h
@[simp] theorem np_err {α} (e : Err) : NoPanic (Outcome.err e : Outcome α) := by intro s h; cases h
@[simp] theorem np_panic {α} (s : String) : ¬ NoPanic (Outcome.panic s : Outcome α) :=
  fun h => h s rfl

theorem np_bind {α β} {x : Outcome α} {f : α → Outcome β}
    (hx : NoPanic x) (hf : ∀ a, x = .ok a → NoPanic (f a)) : NoPanic (x >>= f) :=
  Outcome.bind_ne_panic hx (fun a s h => hf a h s)

@[elab_as_elim]
theorem NoPanic.elim {α} {o : Outcome α} {P : Outcome α → Prop} (ho : NoPanic o)
    (herr : ∀ e, P (.err e)) (hok : ∀ a, o = .ok a → P (.ok a)) : P o := by
  cases o with
  | ok a => exact hok a rfl
  | err e => exact herr e
  | panic s => exact (ho s rfl).elim

theorem np_expectMonetary (v : Value) : NoPanic (expectMonetary v) := by
  unfold expectMonetary
  split
  · exact np_ok _
  · exact np_err _

theorem np_expectNumber (v : Value) : NoPanic (expectNumber v) := by
  unfold expectNumber
  split
  · exact np_ok _
  · exact np_err _

theorem np_expectString (v : Value) : NoPanic (expectString v) := by
  unfold expectString
  split
  · exact np_ok _
  · exact np_err _

theorem np_expectAsset (v : Value) : NoPanic (expectAsset v) := by
  unfold expectAsset
  split
  · exact np_ok _
  · exact np_err _

theorem np_expectAccount (v : Value) : NoPanic (expectAccount v) := by
  unfold expectAccount
  split
  · exact np_ok _
  · exact np_err _

theorem np_expectPortion (v : Value) : NoPanic (expectPortion v) := by
  unfold expectPortion
  split
  · exact np_ok _
  · exact np_err _

theorem np_expectMonetaryOfAsset (a : String) (v : Value) :
    NoPanic (expectMonetaryOfAsset a v) := by
  unfold expectMonetaryOfAsset
  exact (np_expectMonetary v).elim np_err fun _ _ => ite_of (np_ok _) (np_err _)

/-! ### expressions -/

theorem np_evalExpr (vars : Vars) : ∀ (e : Expr), e.Complete → NoPanic (evalExpr vars e)
  | .nil, hc => hc.elim
  | .monetaryNil, hc => hc.elim
  | .var _ name, _ => by
      unfold evalExpr
      cases lookupVar vars name <;> nofun
  | .asset _ _, _ => np_ok _
  | .account _ _, _ => np_ok _
  | .str _ _, _ => np_ok _
  | .number _ _, _ => np_ok _
  | .ratio _ _ _, _ => ite_of (np_err _) (np_ok _)
  | .monetary _ a n, hc => by
      unfold evalExpr
      refine (np_evalExpr vars a hc.1).elim np_err fun va _ => ?_
      dsimp only
      refine (np_expectAsset va).elim np_err fun _ _ => ?_
      dsimp only
      refine (np_evalExpr vars n hc.2).elim np_err fun vn _ => ?_
      dsimp only
      exact (np_expectNumber vn).elim np_err fun _ _ => np_ok _
  | .infix _ op l r, hc => by
      have hr := np_evalExpr vars r hc.2
      unfold evalExpr
      split
      · exact absurd ‹_› (np_evalExpr vars l hc.1 _)
      · exact np_err _
      · refine hr.elim np_err fun vr _ => ?_
        dsimp only
        exact (np_expectMonetary vr).elim np_err fun _ _ => ite_of (np_ok _) (np_err _)
      · refine hr.elim np_err fun vr _ => ?_
        dsimp only
        exact (np_expectNumber vr).elim np_err fun _ _ => np_ok _
      · exact np_err _

theorem np_evalAs {α : Type} (vars : Vars) {e : Expr} (hc : e.Complete) {expect : Value → Outcome α}
    (he : ∀ v, NoPanic (expect v)) : NoPanic (evalAs vars e expect) :=
  np_bind (np_evalExpr vars e hc) (fun v _ => he v)

theorem np_evalExprs (vars : Vars) : ∀ (es : List Expr), ExprsComplete es → NoPanic (evalExprs vars es)
  | [], _ => np_ok _
  | e :: es, hc =>
      np_bind (np_evalExpr vars e hc.1) fun _ _ =>
        np_bind (np_evalExprs vars es hc.2) fun _ _ => np_ok _

/-! ### allotments -/

theorem np_evalAllotItems (vars : Vars) : ∀ (items : List AllotVal), (∀ a ∈ items, a.Complete) →
    NoPanic (evalAllotItems vars items)
  | [], _ => np_ok _
  | .nil :: _, hc => (hc .nil List.mem_cons_self).elim
  | .remaining _ :: rest, hc =>
      np_bind (np_evalAllotItems vars rest fun a ha => hc a (List.mem_cons_of_mem _ ha)) fun _ _ =>
        np_ok _
  | .portion e :: rest, hc =>
      np_bind (np_evalAs vars (hc (.portion e) List.mem_cons_self) np_expectPortion) fun _ _ =>
        np_bind (np_evalAllotItems vars rest fun a ha => hc a (List.mem_cons_of_mem _ ha))
          fun _ _ => np_ok _

theorem np_allotOf (n : Int) (qs : List (Option Rat)) : NoPanic (allotOf n qs) :=
  ite_of (ite_of (np_err _) (np_ok _)) (ite_of (np_err _) (np_ok _))

theorem np_makeAllotment (vars : Vars) (n : Int) (items : List AllotVal)
    (hc : ∀ a ∈ items, a.Complete) : NoPanic (makeAllotment vars n items) := by
  rw [makeAllotment_eq]
  exact np_bind (np_evalAllotItems vars items hc) (fun qs _ => np_allotOf n qs)

theorem np_makeAllotment_length (vars : Vars) (n : Int) (items : List AllotVal) (parts : List Int)
    (h : makeAllotment vars n items = .ok parts) : parts.length = items.length := by
  rw [makeAllotment_eq] at h
  obtain ⟨qs, h1, h2⟩ := Outcome.bind_eq_ok h
  rw [allotOf_length n qs parts h2, evalAllotItems_length vars items qs h1]

theorem np_srcItems_allot : ∀ (items : List SrcItem), SrcItemsComplete items →
    ∀ a ∈ items.map SrcItem.allot, a.Complete
  | [], _ => nofun
  | (.mk _ _ _) :: rest, hc => List.forall_mem_cons.mpr ⟨hc.1, np_srcItems_allot rest hc.2.2⟩

theorem np_dstItems_allot : ∀ (items : List DestItem), DstItemsComplete items →
    ∀ a ∈ items.map DestItem.allot, a.Complete
  | [], _ => nofun
  | (.mk _ _ _) :: rest, hc => List.forall_mem_cons.mpr ⟨hc.1, np_dstItems_allot rest hc.2.2⟩

/-! ### text -/

theorem np_parseMonetary (s : String) : NoPanic (parseMonetary s) := by
  unfold parseMonetary
  split
  · split
    · exact np_ok _
    · exact np_err _
  · exact np_err _

theorem np_ParsePortionSpecific (s : String) : NoPanic (ParsePortionSpecific s) := by
  unfold ParsePortionSpecific
  dsimp only
  split
  · rename_i h
    split at h
    · cases h
    · split at h
      · split at h <;> cases h
      · cases h
  · exact np_err _
  · exact np_err _
  · exact ite_of (np_err _) (np_ok _)

theorem np_parseVar (ty raw : String) : NoPanic (parseVar ty raw) := by
  unfold parseVar
  refine ite_of (np_parseMonetary raw) <| ite_of (ite_of (np_ok _) (np_err _)) <| ite_of ?_ <|
    ite_of (np_ok _) <| ite_of ?_ <| ite_of (np_ok _) (np_err _)
  · exact (np_ParsePortionSpecific raw).elim np_err fun _ _ => np_ok _
  · cases parseInt? raw <;> nofun

/-! ### sources -/

theorem np_trySendingToAccount (env : Env) (addr : Expr) (hc : addr.Complete) (amount : Int)
    (od : Option Int) (snd : Senders) : NoPanic (trySendingToAccount env addr amount od snd) := by
  unfold trySendingToAccount
  exact (np_evalAs env.vars hc np_expectAccount).elim np_err fun _ _ => np_ok _

theorem np_sendAllToAccount (env : Env) (addr : Expr) (hc : addr.Complete)
    (od : Option Int) (snd : Senders) : NoPanic (sendAllToAccount env addr od snd) := by
  unfold sendAllToAccount
  refine (np_evalAs env.vars hc np_expectAccount).elim np_err fun _ _ => ?_
  cases od
  · exact np_err _
  · exact ite_of (np_err _) (np_ok _)

mutual
  theorem np_trySendingUpTo (env : Env) : (src : Source) → src.Complete → (amount : Int) →
      (snd : Senders) → NoPanic (trySendingUpTo env src amount snd)
    | .nil, hc, _, _ => hc.elim
    | .account e, hc, amount, snd => by
        rw [trySendingUpTo]
        exact np_trySendingToAccount env e hc amount _ snd
    | .overdraft _ addr none, hc, amount, snd => by
        rw [trySendingUpTo]
        exact np_trySendingToAccount env addr hc amount _ snd
    | .overdraft _ addr (some b), hc, amount, snd => by
        rw [trySendingUpTo]
        exact (np_evalAs env.vars hc.2 (np_expectMonetaryOfAsset env.asset)).elim np_err
          fun cap _ => np_trySendingToAccount env addr hc.1 amount (some cap) snd
    | .inorder _ srcs, hc, amount, snd => by
        rw [trySendingUpTo]
        exact (np_sendInorder env srcs hc amount snd).elim np_err fun _ _ => np_ok _
    | .allotment _ items, hc, amount, snd => by
        rw [trySendingUpTo]
        refine (np_makeAllotment env.vars amount _ (np_srcItems_allot items hc)).elim np_err
          fun parts hparts => ?_
        have hlen := np_makeAllotment_length _ _ _ _ hparts
        rw [List.length_map] at hlen
        dsimp only
        exact (np_sendAllotItems env items hc parts hlen.ge snd).elim np_err fun _ _ => np_ok _
    | .capped _ cap src, hc, amount, snd => by
        rw [trySendingUpTo]
        exact (np_evalAs env.vars hc.1 (np_expectMonetaryOfAsset env.asset)).elim np_err
          fun _ _ => np_trySendingUpTo env src hc.2 _ snd

  theorem np_sendInorder (env : Env) : (srcs : List Source) → SourcesComplete srcs → (left : Int) →
      (snd : Senders) → NoPanic (sendInorder env srcs left snd)
    | [], _, _, _ => by rw [sendInorder]; exact np_ok _
    | s :: ss, hc, left, snd => by
        rw [sendInorder]
        exact (np_trySendingUpTo env s hc.1 left snd).elim np_err
          fun r _ => np_sendInorder env ss hc.2 _ r.2

  theorem np_sendAllotItems (env : Env) : (items : List SrcItem) → SrcItemsComplete items →
      (parts : List Int) → items.length ≤ parts.length → (snd : Senders) →
      NoPanic (sendAllotItems env items parts snd)
    | [], _, _, _, _ => by rw [sendAllotItems]; exact np_ok _
    | _ :: _, _, [], hlen, _ => nomatch hlen
    | (.mk _ _ src) :: rest, hc, p :: ps, hlen, snd => by
        rw [sendAllotItems]
        exact (np_trySendingUpTo env src hc.2.1 p snd).elim np_err fun r _ =>
          ite_of (np_sendAllotItems env rest hc.2.2 ps (Nat.le_of_succ_le_succ hlen) r.2) (np_err _)
end

theorem np_trySendingExact (env : Env) (src : Source) (hc : src.Complete) (amount : Int)
    (snd : Senders) : NoPanic (trySendingExact env src amount snd) := by
  unfold trySendingExact
  exact (np_trySendingUpTo env src hc amount snd).elim np_err fun _ _ => ite_of (np_ok _) (np_err _)

mutual
  theorem np_sendAll (env : Env) : (src : Source) → src.Complete → (snd : Senders) →
      NoPanic (sendAll env src snd)
    | .nil, hc, _ => hc.elim
    | .account e, hc, snd => by
        rw [sendAll]
        exact np_sendAllToAccount env e hc _ snd
    | .overdraft _ addr none, hc, snd => by
        rw [sendAll]
        exact np_sendAllToAccount env addr hc _ snd
    | .overdraft _ addr (some b), hc, snd => by
        rw [sendAll]
        exact (np_evalAs env.vars hc.2 (np_expectMonetaryOfAsset env.asset)).elim np_err
          fun cap _ => np_sendAllToAccount env addr hc.1 (some cap) snd
    | .inorder _ srcs, hc, snd => by
        rw [sendAll]
        exact np_sendAllList env srcs hc 0 snd
    | .capped _ cap src, hc, snd => by
        rw [sendAll]
        exact (np_evalAs env.vars hc.1 (np_expectMonetaryOfAsset env.asset)).elim np_err
          fun _ _ => np_trySendingUpTo env src hc.2 _ snd
    | .allotment _ _, _, _ => by rw [sendAll]; exact np_err _

  theorem np_sendAllList (env : Env) : (srcs : List Source) → SourcesComplete srcs → (total : Int) →
      (snd : Senders) → NoPanic (sendAllList env srcs total snd)
    | [], _, _, _ => by rw [sendAllList]; exact np_ok _
    | s :: ss, hc, total, snd => by
        rw [sendAllList]
        exact (np_sendAll env s hc.1 snd).elim np_err fun r _ => np_sendAllList env ss hc.2 _ r.2
end

/-! ### destinations -/

mutual
  theorem np_receiveFrom (env : Env) : (dst : Dest) → dst.Complete → (amount : Int) →
      (rcv : Receivers) → NoPanic (receiveFrom env dst amount rcv)
    | .nil, hc, _, _ => hc.elim
    | .account e, hc, amount, rcv => by
        rw [receiveFrom]
        exact (np_evalAs env.vars hc np_expectAccount).elim np_err fun _ _ => np_ok _
    | .allotment _ items, hc, amount, rcv => by
        rw [receiveFrom]
        refine (np_makeAllotment env.vars amount _ (np_dstItems_allot items hc)).elim np_err
          fun parts hparts => ?_
        have hlen := np_makeAllotment_length _ _ _ _ hparts
        rw [List.length_map] at hlen
        exact np_receiveAllotItems env items hc parts hlen.ge rcv
    | .inorder _ clauses remaining, hc, amount, rcv => by
        rw [receiveFrom]
        exact (np_receiveClauses env clauses hc.1 amount rcv).elim np_err fun r _ =>
          ite_of (np_ok _) (np_receiveKoD env remaining hc.2 r.1 r.2)

  theorem np_receiveKoD (env : Env) : (k : KoD) → k.Complete → (amount : Int) →
      (rcv : Receivers) → NoPanic (receiveKoD env k amount rcv)
    | .nil, hc, _, _ => hc.elim
    | .kept _, _, _, _ => by rw [receiveKoD]; exact np_ok _
    | .to d, hc, amount, rcv => by
        rw [receiveKoD]
        exact np_receiveFrom env d hc amount rcv

  theorem np_receiveClauses (env : Env) : (clauses : List DestClause) → ClausesComplete clauses →
      (left : Int) → (rcv : Receivers) → NoPanic (receiveClauses env clauses left rcv)
    | [], _, _, _ => by rw [receiveClauses]; exact np_ok _
    | (.mk _ cap kd) :: rest, hc, left, rcv => by
        rw [receiveClauses]
        exact (np_evalAs env.vars hc.1 (np_expectMonetaryOfAsset env.asset)).elim np_err
          fun _ _ => ite_of (np_ok _) <| ite_of (np_receiveClauses env rest hc.2.2 left rcv) <|
            (np_receiveKoD env kd hc.2.1 _ rcv).elim np_err
              fun rcv' _ => np_receiveClauses env rest hc.2.2 _ rcv'

  theorem np_receiveAllotItems (env : Env) : (items : List DestItem) → DstItemsComplete items →
      (parts : List Int) → items.length ≤ parts.length → (rcv : Receivers) →
      NoPanic (receiveAllotItems env items parts rcv)
    | [], _, _, _, _ => by rw [receiveAllotItems]; exact np_ok _
    | _ :: _, _, [], hlen, _ => nomatch hlen
    | (.mk _ _ kd) :: rest, hc, p :: ps, hlen, rcv => by
        rw [receiveAllotItems]
        exact (np_receiveKoD env kd hc.2.1 p rcv).elim np_err fun rcv' _ =>
          np_receiveAllotItems env rest hc.2.2 ps (Nat.le_of_succ_le_succ hlen) rcv'
end

/-! ### preloading -/

theorem np_evaluateSentAmt (vars : Vars) : (sv : SentValue) → sv.Complete →
    NoPanic (evaluateSentAmt vars sv)
  | .nil, hc => hc.elim
  | .all _ a, hc => by
      rw [evaluateSentAmt]
      exact (np_evalAs vars hc np_expectAsset).elim np_err fun _ _ => np_ok _
  | .lit _ m, hc => by
      rw [evaluateSentAmt]
      exact (np_evalAs vars hc np_expectMonetary).elim np_err fun _ _ => np_ok _

mutual
  theorem np_findBalancesQueries (vars : Vars) (asset : String) : (src : Source) → src.Complete →
      (p : BalanceQuery) → NoPanic (findBalancesQueries vars asset src p)
    | .nil, hc, _ => hc.elim
    | .account e, hc, p => by
        rw [findBalancesQueries]
        exact (np_evalAs vars hc np_expectAccount).elim np_err fun _ _ => np_ok _
    | .overdraft _ _ none, _, _ => by rw [findBalancesQueries]; exact np_ok _
    | .overdraft _ addr (some _), hc, p => by
        rw [findBalancesQueries]
        exact (np_evalAs vars hc.1 np_expectAccount).elim np_err fun _ _ => np_ok _
    | .inorder _ srcs, hc, p => by
        rw [findBalancesQueries]
        exact np_findQueriesList vars asset srcs hc p
    | .capped _ _ src, hc, p => by
        rw [findBalancesQueries]
        exact np_findBalancesQueries vars asset src hc.2 p
    | .allotment _ items, hc, p => by
        rw [findBalancesQueries]
        exact np_findQueriesItems vars asset items hc p

  theorem np_findQueriesList (vars : Vars) (asset : String) : (srcs : List Source) →
      SourcesComplete srcs → (p : BalanceQuery) → NoPanic (findQueriesList vars asset srcs p)
    | [], _, _ => by rw [findQueriesList]; exact np_ok _
    | s :: ss, hc, p => by
        rw [findQueriesList]
        exact (np_findBalancesQueries vars asset s hc.1 p).elim np_err
          fun p' _ => np_findQueriesList vars asset ss hc.2 p'

  theorem np_findQueriesItems (vars : Vars) (asset : String) : (items : List SrcItem) →
      SrcItemsComplete items → (p : BalanceQuery) → NoPanic (findQueriesItems vars asset items p)
    | [], _, _ => by rw [findQueriesItems]; exact np_ok _
    | (.mk _ _ src) :: rest, hc, p => by
        rw [findQueriesItems]
        exact (np_findBalancesQueries vars asset src hc.2.1 p).elim np_err
          fun p' _ => np_findQueriesItems vars asset rest hc.2.2 p'
end

theorem np_findBalancesQueriesInStatement (vars : Vars) : (st : Statement) → st.Complete →
    (p : BalanceQuery) → NoPanic (findBalancesQueriesInStatement vars st p)
  | .nil, hc, _ => hc.elim
  | .fnCallNil, hc, _ => hc.elim
  | .fnCall _, _, _ => np_ok _
  | .save _ sv amount, hc, p => by
      rw [findBalancesQueriesInStatement]
      refine (np_evaluateSentAmt vars sv hc.1).elim np_err fun _ _ => ?_
      dsimp only
      exact (np_evalAs vars hc.2 np_expectAccount).elim np_err fun _ _ => np_ok _
  | .send _ sv src _, hc, p => by
      rw [findBalancesQueriesInStatement]
      exact (np_evaluateSentAmt vars sv hc.1).elim np_err
        fun r _ => np_findBalancesQueries vars r.1 src hc.2.1 p

theorem np_preload (vars : Vars) : (ss : List Statement) → StatementsComplete ss →
    (p : BalanceQuery) → NoPanic (preload vars ss p)
  | [], _, _ => np_ok _
  | s :: ss, hc, p => by
      rw [preload]
      exact (np_findBalancesQueriesInStatement vars s hc.1 p).elim np_err
        fun p' _ => np_preload vars ss hc.2 p'

/-! ### statements -/

theorem np_runSendStatement (vars : Vars) (st : RState) (sv : SentValue) (hsv : sv.Complete)
    (src : Source) (hsrc : src.Complete) (dst : Dest) (hdst : dst.Complete) :
    NoPanic (runSendStatement vars st sv src dst) := by
  cases sv with
  | nil => exact hsv.elim
  | all _ a =>
    simp only [runSendStatement]
    refine (np_evalAs vars hsv np_expectAsset).elim np_err fun asset _ => ?_
    dsimp only
    refine (np_sendAll _ src hsrc []).elim np_err fun r _ => ?_
    dsimp only
    exact (np_receiveFrom _ dst hdst r.1 []).elim np_err fun _ _ => np_ok _
  | lit _ m =>
    simp only [runSendStatement]
    refine (np_evalAs vars hsv np_expectMonetary).elim np_err fun r _ => ite_of (np_err _) ?_
    refine (np_trySendingExact _ src hsrc r.2 []).elim np_err fun _ _ => ?_
    dsimp only
    exact (np_receiveFrom _ dst hdst r.2 []).elim np_err fun _ _ => np_ok _

theorem np_runSaveStatement (vars : Vars) (st : RState) (sv : SentValue) (hsv : sv.Complete)
    (amount : Expr) (ha : amount.Complete) : NoPanic (runSaveStatement vars st sv amount) := by
  unfold runSaveStatement
  refine (np_evaluateSentAmt vars sv hsv).elim np_err fun r _ => ?_
  dsimp only
  refine (np_evalAs vars ha np_expectAccount).elim np_err fun _ _ => ?_
  dsimp only
  cases r.2
  · exact np_ok _
  · exact ite_of (np_err _) (np_ok _)

theorem np_parseArgs2 {α β : Type} (args : List Value) (e1 : Value → Outcome α)
    (e2 : Value → Outcome β) (h1 : ∀ v, NoPanic (e1 v)) (h2 : ∀ v, NoPanic (e2 v)) :
    NoPanic (parseArgs2 args e1 e2) := by
  unfold parseArgs2
  split
  · exact np_bind (h1 _) fun _ _ => np_bind (h2 _) fun _ _ => np_ok _
  · exact np_err _

theorem np_parseArgs3 {α β γ : Type} (args : List Value) (e1 : Value → Outcome α)
    (e2 : Value → Outcome β) (e3 : Value → Outcome γ) (h1 : ∀ v, NoPanic (e1 v))
    (h2 : ∀ v, NoPanic (e2 v)) (h3 : ∀ v, NoPanic (e3 v)) :
    NoPanic (parseArgs3 args e1 e2 e3) := by
  unfold parseArgs3
  split
  · exact np_bind (h1 _) fun _ _ => np_bind (h2 _) fun _ _ => np_bind (h3 _) fun _ _ => np_ok _
  · exact np_err _

theorem np_runStatement (vars : Vars) (st : RState) : (s : Statement) → s.Complete →
    NoPanic (runStatement vars st s)
  | .nil, hc => hc.elim
  | .fnCallNil, hc => hc.elim
  | .send _ sv src dst, hc => np_runSendStatement vars st sv hc.1 src hc.2.1 dst hc.2.2
  | .save _ sv amount, hc => np_runSaveStatement vars st sv hc.1 amount hc.2
  | .fnCall fn, hc => by
      rw [runStatement]
      refine (np_evalExprs vars fn.args hc).elim np_err fun args _ => ite_of ?_ (ite_of ?_ (np_err _))
      · exact (np_parseArgs2 args _ _ np_expectString np_ok).elim np_err fun _ _ => np_ok _
      · exact (np_parseArgs3 args _ _ _ np_expectAccount np_expectString np_ok).elim np_err
          fun _ _ => np_ok _

theorem np_runStatements (vars : Vars) : (ss : List Statement) → StatementsComplete ss →
    (st : RState) → NoPanic (runStatements vars ss st)
  | [], _, _ => np_ok _
  | s :: ss, hc, st => by
      unfold runStatements
      refine (np_runStatement vars st s hc.1).elim np_err fun r _ => ?_
      dsimp only
      exact (np_runStatements vars ss hc.2 r.2).elim np_err fun _ _ => np_ok _

/-! ### variables -/

theorem np_getBalance (store : Store) (q : QState) (account asset : String) :
    NoPanic (getBalance store q account asset) := by
  unfold getBalance
  dsimp only
  split
  · exact np_err _
  · exact np_ok _

theorem np_handleOrigin (store : Store) (flag : Bool) (vars : Vars) (q : QState) (ty : String)
    (fn : FnCall) (hc : fn.Complete) : NoPanic (handleOrigin store flag vars q ty fn) := by
  unfold handleOrigin
  refine (np_evalExprs vars fn.args hc).elim np_err fun args _ =>
    ite_of ?_ <| ite_of ?_ <| ite_of (ite_of (np_err _) ?_) (np_err _)
  · refine (np_parseArgs2 args _ _ np_expectAccount np_expectString).elim np_err fun r _ => ?_
    dsimp only
    split
    · exact np_err _
    · split
      · exact np_err _
      · exact (np_parseVar ty _).elim np_err fun _ _ => np_ok _
  · refine (np_parseArgs2 args _ _ np_expectAccount np_expectAsset).elim np_err fun r _ => ?_
    dsimp only
    exact (np_getBalance store q r.1 r.2).elim np_err fun _ _ => ite_of (np_err _) (np_ok _)
  · refine (np_parseArgs2 args _ _ np_expectAccount np_expectAsset).elim np_err fun r _ => ?_
    dsimp only
    exact (np_getBalance store q r.1 r.2).elim np_err fun _ _ => ite_of (np_ok _) (np_ok _)

theorem np_parseVars (store : Store) (flag : Bool) (rawVars : List (String × String)) :
    (ds : List VarDecl) → VarDeclsComplete ds → (vars : Vars) → (q : QState) →
    NoPanic (parseVars store flag rawVars ds vars q)
  | [], _, _, _ => np_ok _
  | d :: rest, ⟨⟨hn, ht, ho⟩, hrest⟩, vars, q => by
      have hr := np_parseVars store flag rawVars rest hrest
      unfold parseVars
      split
      · rename_i h; rw [h] at hn; cases hn
      · rename_i h; rw [h] at ht; cases ht
      · split
        · split
          · exact np_err _
          · exact (np_parseVar _ _).elim np_err fun _ _ => hr _ q
        · exact (np_handleOrigin store flag vars q _ _ (ho _ ‹_›)).elim np_err fun r _ => hr _ r.2

theorem np_RunProgram (prog : Program) (hc : prog.Complete) (rawVars : List (String × String))
    (store : Store) (flag : Bool) : NoPanic (RunProgram prog rawVars store flag) := by
  unfold RunProgram
  refine (np_parseVars store flag rawVars prog.vars hc.1 [] _).elim np_err fun r _ => ?_
  dsimp only
  refine (np_preload r.1 prog.stmts hc.2 _).elim np_err fun _ _ => ?_
  dsimp only
  split
  · exact np_err _
  · exact (np_runStatements r.1 prog.stmts hc.2 _).elim np_err fun _ _ => np_ok _

end NS
