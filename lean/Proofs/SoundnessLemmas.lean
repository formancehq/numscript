/-
  For property C17: a clean static check excludes static-class failures at run time, and a check
  without any diagnostic also excludes the errors about the shape of a send-all source.  What the
  checker leaves unchanged (`sd_Ext`, `sd_Frame`) is also what Proofs/ValidLemmas.lean (C16) starts from.

  Names: `sd_ei_*` is about `sd_ErrIn P` for any `P`; `sd_ns_*`, `sd_sh_*`, `sd_sp_*` are about its
  instances `sd_NoStatic`, `sd_NoShape` and `sd_ErrIn sd_ShapeP`.
-/
import Proofs.ParserInv
import Proofs.NoPanicLemmas
import Proofs.AnalysisLemmas

namespace NS

variable {P : Err → Prop} {st st' : CState} {vars : Vars} {env : Env}

/-! ## typed errors of an outcome -/

def sd_ErrIn {α : Type} (P : Err → Prop) (o : Outcome α) : Prop := ∀ e, o = .err e → P e

theorem sd_ei_ok {α} (P : Err → Prop) (a : α) : sd_ErrIn P (Outcome.ok a) := by intro e h; cases h
theorem sd_ei_panic {α} (P : Err → Prop) (s : String) : sd_ErrIn P (Outcome.panic s : Outcome α) := by
  intro e h; cases h
theorem sd_ei_err {α} {e : Err} (h : P e) : sd_ErrIn P (Outcome.err e : Outcome α) := by
  intro e' h'; cases h'; exact h
theorem sd_ei_of_eq_err {α β} {x : Outcome α} {e : Err} (h : sd_ErrIn P x)
    (he : x = .err e) : sd_ErrIn P (Outcome.err e : Outcome β) := sd_ei_err (h e he)
theorem sd_ei_bind {α β} {x : Outcome α} {f : α → Outcome β}
    (hx : sd_ErrIn P x) (hf : ∀ a, x = .ok a → sd_ErrIn P (f a)) : sd_ErrIn P (x >>= f) := by
  cases x with
  | ok a => exact hf a rfl
  | err e => exact sd_ei_err (hx e rfl)
  | panic s => exact sd_ei_panic _ _
theorem sd_ei_mono {α} {P Q : Err → Prop} {o : Outcome α} (h : sd_ErrIn P o) (hpq : ∀ e, P e → Q e) :
    sd_ErrIn Q o := fun e he => hpq e (h e he)

/-- The interpreter is written with `match x with | .panic s => .panic s | .err e => .err e | .ok a => k a`
    where a do-block would have `x >>= k`, and such a `match` is compiled to a constant of its own for
    each type of `x` and pattern `a`: too many in the interpreter to state `sd_ei_bind` for each.  With
    `h : sd_ErrIn P x`, `sd_bind h` turns the goal `sd_ErrIn P (match x with …)` into
    `sd_ErrIn P (k a)`, closing the `.panic` and the `.err` branch, which `split` puts first. -/
macro "sd_bind " h:term : tactic =>
  `(tactic| (split; exact sd_ei_panic _ _; exact sd_ei_of_eq_err $h ‹_›))

abbrev sd_NoStatic {α : Type} (o : Outcome α) : Prop := sd_ErrIn (fun e => e.isStaticClass = false) o

abbrev sd_NoShape {α : Type} (o : Outcome α) : Prop := sd_ErrIn (fun e => e.isSendAllShape = false) o

theorem sd_noStaticFailure_iff {α} (o : Outcome α) : o.noStaticFailure ↔ NoPanic o ∧ sd_NoStatic o := by
  cases o with
  | ok a => simp [Outcome.noStaticFailure, sd_ei_ok]
  | err e =>
    simp only [Outcome.noStaticFailure, np_err, true_and]
    exact ⟨fun h => sd_ei_err h, fun h => h e rfl⟩
  | panic s => simp [Outcome.noStaticFailure]

/-- all that a function which itself raises only failures that are neither static nor about the shape
    of a send-all source (missing funds, a store error, …) asks of `P` -/
def sd_Dyn (P : Err → Prop) : Prop := ∀ e, e.isStaticClass = false → e.isSendAllShape = false → P e

theorem sd_dyn_static : sd_Dyn (fun e => e.isStaticClass = false) := fun _ h _ => h
theorem sd_dyn_shape : sd_Dyn (fun e => e.isSendAllShape = false) := fun _ _ h => h

/-! ## severities and error counts -/

/-- the entries of `severityTable` (diagnostic_kind.go) that are used -/
def sd_severities : List (String × Nat) :=
  [("TypeMismatch", 1), ("UnboundVariable", 1), ("InvalidType", 1), ("UnknownFunction", 1),
    ("BadArity", 1), ("DuplicateVariable", 1), ("DivByZero", 1), ("UnusedVar", 2)]

theorem sd_severity_eq {k : DiagKind} {s : Nat} (h : (k.name, s) ∈ sd_severities) : k.severity = s := by
  have table : ∀ p ∈ sd_severities,
      (severityTable.find? (fun q => q.1 == p.1)).map (·.2) = some p.2 := by decide
  have := table _ h
  unfold DiagKind.severity
  cases hf : severityTable.find? (fun q => q.1 == k.name) with
  | none => rw [hf] at this; cases this
  | some q => rw [hf] at this; exact Option.some.inj this

theorem sd_errorCount_append (l1 l2 : List Diag) :
    errorCount (l1 ++ l2) = errorCount l1 + errorCount l2 := by
  simp [errorCount]

theorem sd_errorCount_push (st : CState) (r : Range) (k : DiagKind) :
    errorCount (st.push r k).diags = errorCount st.diags + (if k.severity = 1 then 1 else 0) := by
  simp only [CState.push, sd_errorCount_append]
  by_cases h : k.severity = 1 <;> simp [errorCount, h]

theorem sd_push_not_clean {r : Range} {k : DiagKind} (h : NoNewErrors st (st.push r k))
    (hk : (k.name, 1) ∈ sd_severities := by simp [DiagKind.name, sd_severities]) : False := by
  unfold NoNewErrors at h
  rw [sd_errorCount_push, sd_severity_eq hk] at h
  simp at h

theorem sd_append_mono {a b : CState} (h : ∃ l, b.diags = a.diags ++ l) :
    errorCount a.diags ≤ errorCount b.diags := by
  obtain ⟨l, e⟩ := h
  rw [e, sd_errorCount_append]; omega

theorem sd_clean_split {a b c : CState} (hab : ∃ l, b.diags = a.diags ++ l)
    (hbc : ∃ l, c.diags = b.diags ++ l) (h : NoNewErrors a c) : NoNewErrors a b ∧ NoNewErrors b c := by
  have := sd_append_mono hab
  have := sd_append_mono hbc
  unfold NoNewErrors at *; omega

/-! ## what the checker leaves unchanged -/

structure sd_Ext (st st' : CState) : Prop where
  diags : ∃ l, st'.diags = st.diags ++ l
  declared : st'.declared = st.declared
  fnRes : st'.fnRes = st.fnRes

def sd_Frame (st st' : CState) : Prop := sd_Ext st st' ∧ st'.unboundedSend = st.unboundedSend

theorem sd_Ext.refl (st : CState) : sd_Ext st st := ⟨append_refl _, rfl, rfl⟩
theorem sd_Ext.trans {a b c : CState} (h1 : sd_Ext a b) (h2 : sd_Ext b c) : sd_Ext a c :=
  ⟨append_trans h1.diags h2.diags, h2.declared.trans h1.declared, h2.fnRes.trans h1.fnRes⟩
theorem sd_Ext.silent {a b : CState} (h : sd_Ext a b) (hb : b.diags = []) : a.diags = [] := by
  obtain ⟨⟨l, e⟩, _, _⟩ := h
  rw [hb] at e
  exact (List.append_eq_nil_iff.mp e.symm).1

theorem sd_Frame.refl (st : CState) : sd_Frame st st := ⟨sd_Ext.refl st, rfl⟩
theorem sd_Frame.trans {a b c : CState} (h1 : sd_Frame a b) (h2 : sd_Frame b c) : sd_Frame a c :=
  ⟨h1.1.trans h2.1, h2.2.trans h1.2⟩
theorem sd_Frame.push (st : CState) (r : Range) (k : DiagKind) : sd_Frame st (st.push r k) :=
  ⟨⟨⟨[⟨r, k⟩], rfl⟩, rfl, rfl⟩, rfl⟩
theorem sd_Frame.mono {a b : CState} (h : sd_Frame a b) : errorCount a.diags ≤ errorCount b.diags :=
  sd_append_mono h.1.diags
theorem sd_Frame.declared {a b : CState} (h : sd_Frame a b) : b.declared = a.declared := h.1.declared
theorem sd_Frame.fnRes {a b : CState} (h : sd_Frame a b) : b.fnRes = a.fnRes := h.1.fnRes
theorem sd_Frame.silent {a b : CState} (h : sd_Frame a b) (hb : b.diags = []) : a.diags = [] :=
  h.1.silent hb
theorem sd_Frame.of_eq {a b : CState} (h1 : b.diags = a.diags) (h2 : b.declared = a.declared)
    (h3 : b.fnRes = a.fnRes) (h4 : b.unboundedSend = a.unboundedSend) : sd_Frame a b :=
  ⟨⟨⟨[], by simp [h1]⟩, h2, h3⟩, h4⟩

theorem sd_Frame.split {a b c : CState} (hab : sd_Frame a b) (hbc : sd_Frame b c) (h : NoNewErrors a c) :
    NoNewErrors a b ∧ NoNewErrors b c := sd_clean_split hab.1.diags hbc.1.diags h

theorem sd_Frame.split3 {a b c d : CState} (hab : sd_Frame a b) (hbc : sd_Frame b c) (hcd : sd_Frame c d)
    (h : NoNewErrors a d) : NoNewErrors a b ∧ NoNewErrors b c ∧ NoNewErrors c d :=
  have ⟨h1, h2⟩ := hab.split (hbc.trans hcd) h
  ⟨h1, hbc.split hcd h2⟩

/-! `an_Frame` (Proofs/AnalysisLemmas.lean) says more, about `varRes`. -/

theorem sd_Frame.of_an {a b : CState} (h : an_Frame a b) : sd_Frame a b :=
  ⟨⟨h.1.1, h.1.2.1, h.2.1⟩, h.2.2⟩

theorem sd_Frame.of_grows {o : Outcome CState} (hg : an_Grows st o) (h : o = .ok st') : sd_Frame st st' :=
  .of_an (hg.frame h)

theorem sd_checkExpression_frame (e : Expr) {st st' : CState} {τ : String}
    (h : checkExpression st e τ = .ok st') : sd_Frame st st' :=
  .of_grows (an_checkExpression_frame e st τ) h

/-! ## expressions -/

theorem sd_assertHasType_clean {req act : String} {lr : Option Range}
    (h : assertHasType st lr req act = .ok st') (hc : NoNewErrors st st') :
    req = "any" ∨ req = act := by
  unfold assertHasType at h
  split at h
  · assumption
  · split at h <;> cases h
    exact (sd_push_not_clean hc).elim

theorem sd_checkRatioLiteral_clean {r : Range} {den : Nat}
    (hc : NoNewErrors st (checkRatioLiteral st r den).1) : den ≠ 0 := by
  unfold checkRatioLiteral at hc
  split at hc
  · exact (sd_push_not_clean hc).elim
  · assumption

/-- Both operands of an infix are checked at one type `T`: the required one if that is numeric;
    else the type inferred for the left operand, which is then compared with the required one if it
    is numeric, and otherwise with `monetary|number` unless nothing was inferred. -/
theorem sd_checkExpression_infix {r : Range} {τ : String} {op : InfixOp} {l rgt : Expr}
    (h : checkExpression st (.infix r op l rgt) τ = .ok st') :
    ∃ T st1 st2, checkExpression st l T = .ok st1 ∧ checkExpression st1 rgt T = .ok st2 ∧
      sd_Frame st2 st' ∧
      ((τ = "number" ∨ τ = "monetary") ∧ T = τ ∧ st2 = st' ∨
        (T = "number" ∨ T = "monetary") ∧ T = inferType st l ∧
          assertHasType st2 (some r) τ T = .ok st' ∨
        inferType st l = "" ∨
        assertHasType st2 l.rangeOpt "monetary|number" (inferType st l) = .ok st') := by
  simp only [checkExpression] at h
  split at h
  · obtain ⟨st1, h1, h⟩ := an_bind_eq_ok h
    exact ⟨_, _, _, h1, h, sd_Frame.refl _, .inl ⟨‹_›, rfl, rfl⟩⟩
  · split at h
    · obtain ⟨st1, h1, h⟩ := an_bind_eq_ok h
      obtain ⟨st2, h2, h⟩ := an_bind_eq_ok h
      exact ⟨_, _, _, h1, h2, .of_grows (an_assertHasType_frame ..) h, .inr (.inl ⟨‹_›, rfl, h⟩)⟩
    · obtain ⟨st1, h1, h⟩ := an_bind_eq_ok h
      obtain ⟨st2, h2, h⟩ := an_bind_eq_ok h
      split at h
      · cases h; exact ⟨_, _, _, h1, h2, sd_Frame.refl _, .inr (.inr (.inl ‹_›))⟩
      · exact ⟨_, _, _, h1, h2, .of_grows (an_assertHasType_frame ..) h, .inr (.inr (.inr h))⟩

def sd_DeclsTyped (st : CState) : Prop :=
  ∀ name d, lookupDecl st name = some d → ∃ r t, d.type = some (r, t) ∧ isTypeAllowed t = true

def sd_Good (st : CState) (vars : Vars) : Prop := EnvAgrees st vars ∧ sd_DeclsTyped st

theorem sd_lookupDecl_congr (h : st'.declared = st.declared) (name : String) :
    lookupDecl st' name = lookupDecl st name := by
  unfold lookupDecl; rw [h]

theorem sd_Good.congr (h : st'.declared = st.declared)
    (hg : sd_Good st vars) : sd_Good st' vars := by
  constructor
  · intro name d r t h1 h2 h3
    rw [sd_lookupDecl_congr h] at h1
    exact hg.1 name d r t h1 h2 h3
  · intro name d h1
    rw [sd_lookupDecl_congr h] at h1
    exact hg.2 name d h1

theorem sd_Good.frame (hg : sd_Good st vars) (h : sd_Frame st st') :
    sd_Good st' vars := hg.congr h.declared

def sd_HasType (v : Value) (τ : String) : Prop := τ = "any" ∨ v.typeName = τ

theorem sd_HasType.number {v : Value} (h : sd_HasType v "number") : ∃ n, v = .number n := by
  cases v <;> simp [sd_HasType, Value.typeName] at h; exact ⟨_, rfl⟩
theorem sd_HasType.monetary {v : Value} (h : sd_HasType v "monetary") : ∃ a n, v = .monetary a n := by
  cases v <;> simp [sd_HasType, Value.typeName] at h; exact ⟨_, _, rfl⟩
theorem sd_HasType.asset {v : Value} (h : sd_HasType v "asset") : ∃ s, v = .asset s := by
  cases v <;> simp [sd_HasType, Value.typeName] at h; exact ⟨_, rfl⟩
theorem sd_HasType.account {v : Value} (h : sd_HasType v "account") : ∃ s, v = .account s := by
  cases v <;> simp [sd_HasType, Value.typeName] at h; exact ⟨_, rfl⟩
theorem sd_HasType.string {v : Value} (h : sd_HasType v "string") : ∃ s, v = .str s := by
  cases v <;> simp [sd_HasType, Value.typeName] at h; exact ⟨_, rfl⟩
theorem sd_HasType.portion {v : Value} (h : sd_HasType v "portion") : ∃ q, v = .portion q := by
  cases v <;> simp [sd_HasType, Value.typeName] at h; exact ⟨_, rfl⟩

def sd_ExprOk (vars : Vars) (e : Expr) (τ : String) : Prop :=
  match evalExpr vars e with
  | .ok v => τ = "any" ∨ v.typeName = τ
  | .err err => err.isStaticClass = false
  | .panic _ => False

theorem sd_ExprOk.of_ok {e : Expr} {τ : String} {v : Value} (hv : evalExpr vars e = .ok v)
    (h : sd_HasType v τ) : sd_ExprOk vars e τ := by
  unfold sd_ExprOk
  rw [hv]
  exact h

theorem sd_ExprOk.of_err {e : Expr} {τ : String} {er : Err} (hv : evalExpr vars e = .err er)
    (h : er.isStaticClass = false) : sd_ExprOk vars e τ := by
  unfold sd_ExprOk
  rw [hv]
  exact h

theorem sd_ExprOk.cases {e : Expr} {τ : String} (h : sd_ExprOk vars e τ) :
    (∃ v, evalExpr vars e = .ok v ∧ sd_HasType v τ) ∨
      ∃ er, evalExpr vars e = .err er ∧ er.isStaticClass = false := by
  unfold sd_ExprOk at h
  cases hv : evalExpr vars e with
  | ok v => rw [hv] at h; exact .inl ⟨v, rfl, h⟩
  | err er => rw [hv] at h; exact .inr ⟨er, rfl, h⟩
  | panic s => rw [hv] at h; exact h.elim

theorem sd_ExprOk.weaken {e : Expr} {T τ : String} (h : sd_ExprOk vars e T)
    (hτ : τ = "any" ∨ τ = T) : sd_ExprOk vars e τ := by
  rcases h.cases with ⟨v, hv, ht⟩ | ⟨er, hv, hs⟩
  · exact .of_ok hv (hτ.elim .inl fun h => h ▸ ht)
  · exact .of_err hv hs

theorem sd_infix_eval (vars : Vars) (rr : Range) (op : InfixOp) (l r : Expr) (T : String)
    (hT : T = "number" ∨ T = "monetary") (hl : sd_ExprOk vars l T) (hr : sd_ExprOk vars r T) :
    sd_ExprOk vars (.infix rr op l r) T := by
  unfold sd_ExprOk
  simp only [evalExpr]
  rcases hl.cases with ⟨v1, h1, t1⟩ | ⟨e1, h1, s1⟩ <;> rw [h1]
  swap
  · simpa using s1
  rcases hr.cases with ⟨v2, h2, t2⟩ | ⟨e2, h2, s2⟩ <;> rw [h2]
  · rcases hT with rfl | rfl
    · obtain ⟨n1, rfl⟩ := t1.number
      obtain ⟨n2, rfl⟩ := t2.number
      simp [expectNumber, Value.typeName]
    · obtain ⟨a1, n1, rfl⟩ := t1.monetary
      obtain ⟨a2, n2, rfl⟩ := t2.monetary
      simp only [expectMonetary]
      by_cases ha : a1 = a2 <;> simp [ha, Value.typeName, Err.isStaticClass]
  · rcases hT with rfl | rfl
    · obtain ⟨n, rfl⟩ := t1.number
      simpa using s2
    · obtain ⟨a, n, rfl⟩ := t1.monetary
      simpa using s2

theorem sd_allowed_ne {t c : String} (h : isTypeAllowed t = true) (hc : isTypeAllowed c = false) :
    t ≠ c := by
  rintro rfl
  rw [h] at hc
  cases hc

theorem sd_allowed_ne_any {t : String} (h : isTypeAllowed t = true) : t ≠ "any" :=
  sd_allowed_ne h (by decide)

theorem sd_var_declared {r : Range} {τ name : String}
    (h : checkExpression st (.var r name) τ = .ok st') (hclean : NoNewErrors st st') :
    ∃ d, lookupDecl st name = some d := by
  simp only [checkExpression] at h
  cases hl : lookupDecl st name with
  | some d => exact ⟨d, rfl⟩
  | none =>
    simp only [hl] at h
    cases h
    exact (sd_push_not_clean (r := r) (k := .unboundVariable name) hclean).elim

theorem sd_inferType_allowed : ∀ (e : Expr) {st st' : CState} {τ : String}, e.Complete →
    checkExpression st e τ = .ok st' → NoNewErrors st st' → sd_DeclsTyped st →
    isTypeAllowed (inferType st e) = true
  | .nil, _, _, _, hc, _, _, _ => by simp [Expr.Complete] at hc
  | .monetaryNil, _, _, _, hc, _, _, _ => by simp [Expr.Complete] at hc
  | .var r name, _, _, _, _, h, hclean, hd => by
      obtain ⟨d, hl⟩ := sd_var_declared h hclean
      obtain ⟨r', t, ht, hta⟩ := hd name d hl
      simp [inferType, hl, ht, hta]
  | .monetary _ _ _, _, _, _, _, _, _, _ => (by decide : isTypeAllowed "monetary" = true)
  | .account _ _, _, _, _, _, _, _, _ => (by decide : isTypeAllowed "account" = true)
  | .ratio _ _ _, _, _, _, _, _, _, _ => (by decide : isTypeAllowed "portion" = true)
  | .asset _ _, _, _, _, _, _, _, _ => (by decide : isTypeAllowed "asset" = true)
  | .number _ _, _, _, _, _, _, _, _ => (by decide : isTypeAllowed "number" = true)
  | .str _ _, _, _, _, _, _, _, _ => (by decide : isTypeAllowed "string" = true)
  | .infix _ _ l rgt, _, _, _, hc, h, hclean, hd => by
      obtain ⟨T, st1, st2, h1, h2, f3, -⟩ := sd_checkExpression_infix h
      have f1 := sd_checkExpression_frame l h1
      exact sd_inferType_allowed l hc.1 h1 (f1.split ((sd_checkExpression_frame rgt h2).trans f3) hclean).1 hd

theorem sd_ExprOk_lit {v : Value} {τ : String} {e : Expr} {lr : Option Range} (hev : evalExpr vars e = .ok v)
    (h : assertHasType st lr τ v.typeName = .ok st') (hclean : NoNewErrors st st') :
    sd_ExprOk vars e τ :=
  .of_ok hev ((sd_assertHasType_clean h hclean).imp_right Eq.symm)

theorem sd_checkExpression_sound : ∀ (e : Expr) {st st' : CState} {vars : Vars} {τ : String},
    e.Complete → checkExpression st e τ = .ok st' → NoNewErrors st st' → sd_Good st vars →
    sd_ExprOk vars e τ
  | .nil, _, _, _, _, hc, _, _, _ => by simp [Expr.Complete] at hc
  | .monetaryNil, _, _, _, _, hc, _, _, _ => by simp [Expr.Complete] at hc
  | .var r name, st, st', vars, τ, _, h, hclean, hg => by
      obtain ⟨d, hl⟩ := sd_var_declared h hclean
      obtain ⟨r', t, ht, hta⟩ := hg.2 name d hl
      obtain ⟨v, hv, rfl⟩ := hg.1 name d r' t hl ht hta
      simp only [checkExpression, hl, ht, hta, if_true] at h
      exact sd_ExprOk_lit (by simp only [evalExpr, hv]) h hclean
  | .account r s, _, _, _, _, _, h, hclean, _ => by
      simp only [checkExpression] at h
      exact sd_ExprOk_lit (v := .account s) rfl h hclean
  | .asset r s, _, _, _, _, _, h, hclean, _ => by
      simp only [checkExpression] at h
      exact sd_ExprOk_lit (v := .asset s) rfl h hclean
  | .number r s, _, _, _, _, _, h, hclean, _ => by
      simp only [checkExpression] at h
      exact sd_ExprOk_lit (v := .number s) rfl h hclean
  | .str r s, _, _, _, _, _, h, hclean, _ => by
      simp only [checkExpression] at h
      exact sd_ExprOk_lit (v := .str s) rfl h hclean
  | .ratio r num den, st, _, _, _, _, h, hclean, _ => by
      simp only [checkExpression] at h
      obtain ⟨c1, c2⟩ :=
        (sd_Frame.of_an (an_checkRatioLiteral_frame st r den)).split (.of_grows (an_assertHasType_frame ..) h)
          hclean
      exact sd_ExprOk_lit (v := .portion (mkRat num den))
        (by simp [evalExpr, sd_checkRatioLiteral_clean c1]) h c2
  | .monetary r a n, st, st', vars, τ, hc, h, hclean, hg => by
      simp only [checkExpression] at h
      obtain ⟨st1, h1, h⟩ := an_bind_eq_ok h
      obtain ⟨st2, h2, h3⟩ := an_bind_eq_ok h
      have f1 := sd_Frame.of_grows (an_assertHasType_frame ..) h1
      have f2 := sd_checkExpression_frame a h2
      obtain ⟨c1, c2, c3⟩ := f1.split3 f2 (sd_checkExpression_frame n h3) hclean
      have iha := sd_checkExpression_sound a hc.1 h2 c2 (hg.frame f1)
      have ihn := sd_checkExpression_sound n hc.2 h3 c3 ((hg.frame f1).frame f2)
      unfold sd_ExprOk
      simp only [evalExpr]
      rcases iha.cases with ⟨va, ha, ta⟩ | ⟨e, ha, sa⟩ <;> rw [ha]
      swap
      · simpa using sa
      obtain ⟨s, rfl⟩ := ta.asset
      rcases ihn.cases with ⟨vn, hn, tn⟩ | ⟨e, hn, sn⟩ <;> rw [hn]
      · obtain ⟨k, rfl⟩ := tn.number
        exact (sd_assertHasType_clean h1 c1).imp_right Eq.symm
      · simpa [expectAsset] using sn
  | .infix rr op l rgt, st, st', vars, τ, hc, h, hclean, hg => by
      have hinf : isTypeAllowed (inferType st l) = true :=
        sd_inferType_allowed (.infix rr op l rgt) hc h hclean hg.2
      obtain ⟨T, st1, st2, h1, h2, f3, hT⟩ := sd_checkExpression_infix h
      have f1 := sd_checkExpression_frame l h1
      obtain ⟨c1, c2, c3⟩ := f1.split3 (sd_checkExpression_frame rgt h2) f3 hclean
      have ih := fun hT => sd_infix_eval vars rr op l rgt T hT
        (sd_checkExpression_sound l hc.1 h1 c1 hg) (sd_checkExpression_sound rgt hc.2 h2 c2 (hg.frame f1))
      rcases hT with ⟨hτ, rfl, -⟩ | ⟨hT, -, h3⟩ | he | h3
      · exact ih hτ
      · exact (ih hT).weaken (sd_assertHasType_clean h3 c3)
      · exact (sd_allowed_ne hinf (by decide) he).elim
      · rcases sd_assertHasType_clean h3 c3 with h4 | h4
        · exact absurd h4 (by decide)
        · exact (sd_allowed_ne hinf (by decide) h4.symm).elim

/-! ## the checker's steps on sources and destinations -/

theorem sd_capped_frame {st inner : CState} (h : sd_Frame (enterCapped st) inner) :
    sd_Frame st (exitCapped inner st) :=
  ⟨⟨h.1.diags, h.1.declared, h.1.fnRes⟩, rfl⟩

/-! ### the steps of a successful `checkSource`; of those that check no expression
(`sourceHead`, …) only the frame is kept -/

theorem sd_checkSource_overdraft {r : Range} {addr : Expr} {b : Option Expr}
    (h : checkSource st (.overdraft r addr b) = .ok st') :
    ∃ st1 st2 st3, sd_Frame st st1 ∧ checkOverdraftHead st1 addr b = .ok st2 ∧
      checkExpression st2 addr "account" = .ok st3 ∧
      match b with
      | none => st3 = st'
      | some b => checkExpression st3 b "monetary" = .ok st' := by
  simp only [checkSource] at h
  obtain ⟨st1, h1, h⟩ := an_bind_eq_ok h
  obtain ⟨st2, h2, h⟩ := an_bind_eq_ok h
  obtain ⟨st3, h3, h⟩ := an_bind_eq_ok h
  refine ⟨_, _, _, .of_grows (an_sourceHead_frame ..) h1, h2, h3, ?_⟩
  cases b with
  | none => exact Outcome.ok.inj h
  | some b => exact h

theorem sd_checkSource_inorder {r : Range} {srcs : List Source}
    (h : checkSource st (.inorder r srcs) = .ok st') :
    ∃ st1, sd_Frame st st1 ∧ checkSourceList st1 srcs = .ok st' := by
  simp only [checkSource] at h
  obtain ⟨st1, h1, h⟩ := an_bind_eq_ok h
  exact ⟨_, .of_grows (an_sourceHead_frame ..) h1, h⟩

theorem sd_checkSource_allotment {r : Range} {items : List SrcItem}
    (h : checkSource st (.allotment r items) = .ok st') :
    ∃ st1 st2 acc, sd_Frame st st1 ∧ checkSrcItems st1 items {} r = .ok (st2, acc) ∧
      sd_Frame st2 st' ∧ (st.unboundedSend = true → st1.diags ≠ []) := by
  simp only [checkSource] at h
  obtain ⟨st1, h1, h⟩ := an_bind_eq_ok h
  obtain ⟨st2, acc, h2, h⟩ := an_bind_pair_eq_ok h
  cases h
  have f1 := sd_Frame.of_grows (an_sourceHead_frame ..) h1
  refine ⟨_, _, _, f1.trans (ite_of (.push _ _ _) (.refl _)), h2,
    .of_an (an_checkHasBadAllotmentSum_frame ..), fun hu => ?_⟩
  simp [f1.2.trans hu, CState.push]

theorem sd_checkSourceList_cons {s : Source} {ss : List Source}
    (h : checkSourceList st (s :: ss) = .ok st') :
    ∃ st1, checkSource st s = .ok st1 ∧ checkSourceList st1 ss = .ok st' := by
  simp only [checkSourceList] at h
  obtain ⟨st1, h1, h⟩ := an_bind_eq_ok h
  exact ⟨_, h1, h⟩

/-! ## evaluation at an expected type -/

theorem sd_evalAs_sound {α : Type} {τ : String} {e : Expr}
    {expect : Value → Outcome α} (hc : e.Complete) (h : checkExpression st e τ = .ok st')
    (hclean : NoNewErrors st st') (hg : sd_Good st vars)
    (hex : ∀ v, sd_HasType v τ → sd_NoStatic (expect v)) : sd_NoStatic (evalAs vars e expect) := by
  unfold evalAs
  rcases (sd_checkExpression_sound e hc h hclean hg).cases with ⟨v, hv, ht⟩ | ⟨er, hv, hs⟩ <;> rw [hv]
  · exact hex v ht
  · exact sd_ei_err hs

theorem sd_ns_expectAccount {v : Value} (h : sd_HasType v "account") : sd_NoStatic (expectAccount v) := by
  obtain ⟨s, rfl⟩ := h.account; exact sd_ei_ok _ _
theorem sd_ns_expectAsset {v : Value} (h : sd_HasType v "asset") : sd_NoStatic (expectAsset v) := by
  obtain ⟨s, rfl⟩ := h.asset; exact sd_ei_ok _ _
theorem sd_ns_expectString {v : Value} (h : "string" = "any" ∨ v.typeName = "string") :
    sd_NoStatic (expectString v) := by
  obtain ⟨s, rfl⟩ := sd_HasType.string h; exact sd_ei_ok _ _
theorem sd_ns_expectPortion {v : Value} (h : sd_HasType v "portion") : sd_NoStatic (expectPortion v) := by
  obtain ⟨s, rfl⟩ := h.portion; exact sd_ei_ok _ _
theorem sd_ns_expectMonetary {v : Value} (h : sd_HasType v "monetary") : sd_NoStatic (expectMonetary v) := by
  obtain ⟨a, n, rfl⟩ := h.monetary; exact sd_ei_ok _ _

theorem sd_ei_expectMonetaryOfAsset {v : Value} (hP : sd_Dyn P)
    (h : sd_ErrIn P (expectMonetary v)) (asset : String) : sd_ErrIn P (expectMonetaryOfAsset asset v) := by
  unfold expectMonetaryOfAsset
  split
  · split
    · exact sd_ei_ok _ _
    · exact sd_ei_err (hP _ rfl rfl)
  · exact sd_ei_of_eq_err h ‹_›
  · exact sd_ei_panic _ _

theorem sd_ns_expectMonetaryOfAsset {v : Value} (asset : String) (h : sd_HasType v "monetary") :
    sd_NoStatic (expectMonetaryOfAsset asset v) :=
  sd_ei_expectMonetaryOfAsset sd_dyn_static (sd_ns_expectMonetary h) asset

theorem sd_ei_trySendingToAccount {addr : Expr}
    (h : sd_ErrIn P (evalAs env.vars addr expectAccount)) (amount : Int) (od : Option Int)
    (snd : Senders) : sd_ErrIn P (trySendingToAccount env addr amount od snd) := by
  unfold trySendingToAccount
  sd_bind h
  exact sd_ei_ok _ _

theorem sd_ns_sendAllToAccount {addr : Expr}
    (h : sd_NoStatic (evalAs env.vars addr expectAccount)) (od : Option Int)
    (snd : Senders) : sd_NoStatic (sendAllToAccount env addr od snd) := by
  unfold sendAllToAccount
  sd_bind h
  split
  · exact sd_ei_err rfl
  · split
    · exact sd_ei_err rfl
    · exact sd_ei_ok _ _

theorem sd_ei_makeAllotment (hP : sd_Dyn P) {items : List AllotVal}
    (h : sd_ErrIn P (evalAllotItems vars items)) (n : Int) : sd_ErrIn P (makeAllotment vars n items) := by
  rw [makeAllotment_eq]
  refine sd_ei_bind h fun qs _ => ?_
  unfold allotOf
  dsimp only
  split
  · split
    · exact sd_ei_err (hP _ rfl rfl)
    · exact sd_ei_ok _ _
  · split
    · exact sd_ei_err (hP _ rfl rfl)
    · exact sd_ei_ok _ _

theorem sd_allotValue_sound {st1 : CState} {w : Range} {acc acc1 : AllotAcc} {a : AllotVal}
    {l : Bool} (hs : a.ShapeOk)
    (h : checkAllotValue st acc a l w = .ok (st1, acc1)) (hclean : NoNewErrors st st1)
    (hg : sd_Good st vars) {rest : List AllotVal} (hr : sd_NoStatic (evalAllotItems vars rest)) :
    sd_NoStatic (evalAllotItems vars (a :: rest)) := by
  have tl {α : Type} (f : List (Option Rat) → α) :
      sd_NoStatic (evalAllotItems vars rest >>= fun tl => pure (f tl)) :=
    sd_ei_bind hr fun _ _ => sd_ei_ok _ _
  cases a with
  | nil => exact hs.elim
  | remaining r => exact tl _
  | portion e =>
    cases e with
    | var r name =>
      simp only [checkAllotValue] at h
      obtain ⟨st2, h2, h⟩ := an_bind_eq_ok h
      cases h
      exact sd_ei_bind (sd_evalAs_sound trivial h2 hclean hg fun _ => sd_ns_expectPortion) fun _ _ => tl _
    | ratio r num den =>
      refine sd_ei_bind ?_ fun _ _ => tl _
      unfold evalAs
      simp only [evalExpr]
      split
      · exact sd_ei_err rfl
      · exact sd_ei_ok _ _
    | _ => exact hs.elim

/-! ## sources -/

def sd_SrcOk (env : Env) (src : Source) : Prop :=
  (∀ amount snd, sd_NoStatic (trySendingUpTo env src amount snd)) ∧
  (∀ snd, sd_NoStatic (sendAll env src snd)) ∧
  (∀ asset p, sd_NoStatic (findBalancesQueries env.vars asset src p))

def sd_SrcListOk (env : Env) (srcs : List Source) : Prop :=
  (∀ left snd, sd_NoStatic (sendInorder env srcs left snd)) ∧
  (∀ total snd, sd_NoStatic (sendAllList env srcs total snd)) ∧
  (∀ asset p, sd_NoStatic (findQueriesList env.vars asset srcs p))

def sd_SrcItemsOk (env : Env) (items : List SrcItem) : Prop :=
  sd_NoStatic (evalAllotItems env.vars (items.map SrcItem.allot)) ∧
  (∀ parts snd, sd_NoStatic (sendAllotItems env items parts snd)) ∧
  (∀ asset p, sd_NoStatic (findQueriesItems env.vars asset items p))

/-! The interpreter's side of `sd_checkSource_sound`, which derives these hypotheses from the check. -/

theorem sd_SrcOk.account {e : Expr} (ha : sd_NoStatic (evalAs env.vars e expectAccount)) :
    sd_SrcOk env (.account e) := by
  refine ⟨fun amount snd => ?_, fun snd => ?_, fun asset p => ?_⟩
  · simp only [trySendingUpTo]; exact sd_ei_trySendingToAccount ha _ _ _
  · simp only [sendAll]; exact sd_ns_sendAllToAccount ha _ _
  · simp only [findBalancesQueries]; sd_bind ha; exact sd_ei_ok _ _

theorem sd_SrcOk.overdraft {r : Range} {addr : Expr}
    (ha : sd_NoStatic (evalAs env.vars addr expectAccount)) : ∀ {b : Option Expr},
    (∀ b' ∈ b, sd_NoStatic (evalAs env.vars b' (expectMonetaryOfAsset env.asset))) →
    sd_SrcOk env (.overdraft r addr b)
  | none, _ => by
      refine ⟨fun amount snd => ?_, fun snd => ?_, fun asset p => ?_⟩
      · simp only [trySendingUpTo]; exact sd_ei_trySendingToAccount ha _ _ _
      · simp only [sendAll]; exact sd_ns_sendAllToAccount ha _ _
      · simp only [findBalancesQueries]; exact sd_ei_ok _ _
  | some b, hb => by
      have hb := hb b rfl
      refine ⟨fun amount snd => ?_, fun snd => ?_, fun asset p => ?_⟩
      · simp only [trySendingUpTo]; sd_bind hb; exact sd_ei_trySendingToAccount ha _ _ _
      · simp only [sendAll]; sd_bind hb; exact sd_ns_sendAllToAccount ha _ _
      · simp only [findBalancesQueries]; sd_bind ha; exact sd_ei_ok _ _

theorem sd_SrcOk.inorder {r : Range} {srcs : List Source} (h : sd_SrcListOk env srcs) :
    sd_SrcOk env (.inorder r srcs) := by
  refine ⟨fun amount snd => ?_, fun snd => ?_, fun asset p => ?_⟩
  · simp only [trySendingUpTo]; sd_bind (h.1 _ _); exact sd_ei_ok _ _
  · simp only [sendAll]; exact h.2.1 _ _
  · simp only [findBalancesQueries]; exact h.2.2 _ _

theorem sd_SrcOk.capped {r : Range} {cap : Expr} {src : Source}
    (hcap : sd_NoStatic (evalAs env.vars cap (expectMonetaryOfAsset env.asset))) (h : sd_SrcOk env src) :
    sd_SrcOk env (.capped r cap src) := by
  refine ⟨fun amount snd => ?_, fun snd => ?_, fun asset p => ?_⟩
  · simp only [trySendingUpTo]; sd_bind hcap; exact h.1 _ _
  · simp only [sendAll]; sd_bind hcap; exact h.1 _ _
  · simp only [findBalancesQueries]; exact h.2.2 _ _

theorem sd_SrcOk.allotment {r : Range} {items : List SrcItem} (h : sd_SrcItemsOk env items) :
    sd_SrcOk env (.allotment r items) := by
  refine ⟨fun amount snd => ?_, fun snd => ?_, fun asset p => ?_⟩
  · simp only [trySendingUpTo]
    sd_bind (sd_ei_makeAllotment sd_dyn_static h.1 _)
    sd_bind (h.2.1 _ _)
    exact sd_ei_ok _ _
  · simp only [sendAll]; exact sd_ei_err rfl
  · simp only [findBalancesQueries]; exact h.2.2 _ _

mutual
  theorem sd_checkSource_sound (env : Env) : ∀ (src : Source) (st st' : CState), src.Complete →
      src.ShapeOk → checkSource st src = .ok st' → NoNewErrors st st' → sd_Good st env.vars →
      sd_SrcOk env src
    | .nil, _, _, hc, _, _, _, _ => by simp [Source.Complete] at hc
    | .account e, st, st', hc, _, h, hclean, hg => by
        simp only [checkSource] at h
        obtain ⟨st1, h1, h⟩ := an_bind_eq_ok h
        obtain ⟨st2, h2, h⟩ := an_bind_eq_ok h
        cases h
        have f1 := sd_Frame.of_grows (an_sourceHead_frame ..) h1
        have f3 : sd_Frame st2 _ := .of_an (an_checkSourceAccountLit_frame st2 e)
        exact .account (sd_evalAs_sound hc h2 (f1.split3 (sd_checkExpression_frame e h2) f3 hclean).2.1
          (hg.frame f1) fun _ => sd_ns_expectAccount)
    | .overdraft r addr none, st, st', hc, _, h, hclean, hg => by
        obtain ⟨st1, st2, st3, f1, h2, h3, h4⟩ := sd_checkSource_overdraft h
        cases h4
        have f2 := f1.trans (.of_grows (an_checkOverdraftHead_frame ..) h2)
        exact .overdraft (sd_evalAs_sound hc h3 (f2.split (sd_checkExpression_frame addr h3) hclean).2
          (hg.frame f2) fun _ => sd_ns_expectAccount) nofun
    | .overdraft r addr (some b), st, st', hc, _, h, hclean, hg => by
        obtain ⟨st1, st2, st3, f1, h2, h3, h4⟩ := sd_checkSource_overdraft h
        have f2 := f1.trans (.of_grows (an_checkOverdraftHead_frame ..) h2)
        have f3 := sd_checkExpression_frame addr h3
        obtain ⟨-, c3, c4⟩ := f2.split3 f3 (sd_checkExpression_frame b h4) hclean
        refine .overdraft (sd_evalAs_sound hc.1 h3 c3 (hg.frame f2) fun _ => sd_ns_expectAccount) ?_
        rintro _ ⟨⟩
        exact sd_evalAs_sound hc.2 h4 c4 ((hg.frame f2).frame f3)
          fun _ => sd_ns_expectMonetaryOfAsset env.asset
    | .inorder r srcs, st, st', hc, hs, h, hclean, hg => by
        obtain ⟨st1, f1, h2⟩ := sd_checkSource_inorder h
        exact .inorder (sd_checkSourceList_sound env srcs st1 st' hc hs h2
          (f1.split (.of_grows (an_checkSourceList_frame ..) h2) hclean).2 (hg.frame f1))
    | .capped r cap src, st, st', hc, hs, h, hclean, hg => by
        simp only [checkSource] at h
        obtain ⟨st1, h1, h⟩ := an_bind_eq_ok h
        obtain ⟨st2, h2, h⟩ := an_bind_eq_ok h
        obtain ⟨st3, h3, h⟩ := an_bind_eq_ok h
        cases h
        have f1 := sd_Frame.of_grows (an_sourceHead_frame ..) h1
        have f2 := sd_checkExpression_frame cap h2
        have f3 := sd_Frame.of_grows (an_checkSource_frame ..) h3
        have hg1 : sd_Good (enterCapped st1) env.vars := (hg.frame f1).congr rfl
        obtain ⟨c2, c3⟩ : NoNewErrors (enterCapped st1) st2 ∧ NoNewErrors st2 st3 :=
          f2.split f3 (sd_clean_split f1.1.diags (f2.trans f3).1.diags hclean).2
        exact .capped (sd_evalAs_sound hc.1 h2 c2 hg1 fun _ => sd_ns_expectMonetaryOfAsset env.asset)
          (sd_checkSource_sound env src st2 st3 hc.2 hs h3 c3 (hg1.frame f2))
    | .allotment r items, st, st', hc, hs, h, hclean, hg => by
        obtain ⟨st1, st2, acc, f1, h2, f3, -⟩ := sd_checkSource_allotment h
        exact .allotment (sd_checkSrcItems_sound env items st1 st2 {} acc r hc hs h2
          (f1.split3 (.of_an (an_checkSrcItems_frame items h2)) f3 hclean).2.1 (hg.frame f1))

  theorem sd_checkSourceList_sound (env : Env) : ∀ (srcs : List Source) (st st' : CState),
      SourcesComplete srcs → SourcesShapeOk srcs → checkSourceList st srcs = .ok st' →
      NoNewErrors st st' → sd_Good st env.vars → sd_SrcListOk env srcs
    | [], _, _, _, _, _, _, _ => by
        refine ⟨fun _ _ => ?_, fun _ _ => ?_, fun _ _ => ?_⟩
        · simp only [sendInorder]; exact sd_ei_ok _ _
        · simp only [sendAllList]; exact sd_ei_ok _ _
        · simp only [findQueriesList]; exact sd_ei_ok _ _
    | s :: ss, st, st', hc, hs, h, hclean, hg => by
        obtain ⟨st1, h1, h2⟩ := sd_checkSourceList_cons h
        have f1 := sd_Frame.of_grows (an_checkSource_frame ..) h1
        obtain ⟨c1, c2⟩ := f1.split (.of_grows (an_checkSourceList_frame ..) h2) hclean
        obtain ⟨i1, i2, i3⟩ := sd_checkSource_sound env s st st1 hc.1 hs.1 h1 c1 hg
        obtain ⟨j1, j2, j3⟩ := sd_checkSourceList_sound env ss st1 st' hc.2 hs.2 h2 c2 (hg.frame f1)
        refine ⟨fun _ _ => ?_, fun _ _ => ?_, fun _ _ => ?_⟩
        · simp only [sendInorder]; sd_bind (i1 _ _); exact j1 _ _
        · simp only [sendAllList]; sd_bind (i2 _); exact j2 _ _
        · simp only [findQueriesList]; sd_bind (i3 _ _); exact j3 _ _

  theorem sd_checkSrcItems_sound (env : Env) : ∀ (items : List SrcItem) (st st' : CState)
      (acc acc' : AllotAcc) (w : Range), SrcItemsComplete items → SrcItemsShapeOk items →
      checkSrcItems st items acc w = .ok (st', acc') → NoNewErrors st st' → sd_Good st env.vars →
      sd_SrcItemsOk env items
    | [], _, _, _, _, _, _, _, _, _, _ => by
        refine ⟨?_, fun _ _ => ?_, fun _ _ => ?_⟩
        · simp only [List.map_nil, evalAllotItems]; exact sd_ei_ok _ _
        · simp only [sendAllotItems]; exact sd_ei_ok _ _
        · simp only [findQueriesItems]; exact sd_ei_ok _ _
    | (.mk _ a src) :: rest, st, st', acc, acc', w, hc, hs, h, hclean, hg => by
        simp only [checkSrcItems] at h
        obtain ⟨st1, acc1, h1, h⟩ := an_bind_pair_eq_ok h
        obtain ⟨st2, h2, h3⟩ := an_bind_eq_ok h
        have f1 := sd_Frame.of_an (an_checkAllotValue_frame h1)
        have f2 := sd_Frame.of_grows (an_checkSource_frame ..) h2
        have d3 := (sd_Frame.of_an (an_checkSrcItems_frame rest h3)).1.diags
        have hg1 : sd_Good (enterCapped st1) env.vars := (hg.frame f1).congr rfl
        obtain ⟨c1, c2, c3⟩ : NoNewErrors st st1 ∧ NoNewErrors (enterCapped st1) st2 ∧
            NoNewErrors (exitCapped st2 st1) st' :=
          have ⟨c1, c23⟩ := sd_clean_split f1.1.diags (append_trans f2.1.diags d3) hclean
          ⟨c1, sd_clean_split f2.1.diags d3 c23⟩
        obtain ⟨i1, i2, i3⟩ := sd_checkSource_sound env src _ st2 hc.2.1 hs.2.1 h2 c2 hg1
        obtain ⟨j1, j2, j3⟩ := sd_checkSrcItems_sound env rest _ st' acc1 acc' w hc.2.2 hs.2.2
          h3 c3 ((hg1.frame f2).congr rfl)
        refine ⟨sd_allotValue_sound hs.1 h1 c1 hg j1, fun parts snd => ?_, fun _ _ => ?_⟩
        · cases parts with
          | nil => simp only [sendAllotItems]; exact sd_ei_panic _ _
          | cons p ps =>
            simp only [sendAllotItems]
            sd_bind (i1 _ _)
            split
            · exact j2 _ _
            · exact sd_ei_err rfl
        · simp only [findQueriesItems]; sd_bind (i3 _ _); exact j3 _ _
end

/-! ## destinations -/

def sd_DstItemsOk (env : Env) (items : List DestItem) : Prop :=
  sd_NoStatic (evalAllotItems env.vars (items.map DestItem.allot)) ∧
  (∀ parts rcv, sd_NoStatic (receiveAllotItems env items parts rcv))

mutual
  theorem sd_checkDestination_sound (env : Env) : ∀ (d : Dest) (st st' : CState), d.Complete →
      d.ShapeOk → checkDestination st d = .ok st' → NoNewErrors st st' → sd_Good st env.vars →
      ∀ amount rcv, sd_NoStatic (receiveFrom env d amount rcv)
    | .nil, _, _, hc, _, _, _, _ => by simp [Dest.Complete] at hc
    | .account e, st, st', hc, _, h, hclean, hg => by
        intro amount rcv
        simp only [receiveFrom]
        sd_bind (sd_evalAs_sound hc h hclean hg fun _ => sd_ns_expectAccount)
        exact sd_ei_ok _ _
    | .inorder _ clauses remaining, st, st', hc, hs, h, hclean, hg => by
        simp only [checkDestination] at h
        obtain ⟨st1, h1, h2⟩ := an_bind_eq_ok h
        have f1 := sd_Frame.of_grows (an_checkClauses_frame ..) h1
        obtain ⟨c1, c2⟩ := f1.split (.of_grows (an_checkKoD_frame ..) h2) hclean
        intro amount rcv
        simp only [receiveFrom]
        sd_bind (sd_checkClauses_sound env clauses st st1 hc.1 hs.1 h1 c1 hg _ _)
        split
        · exact sd_ei_ok _ _
        · exact sd_checkKoD_sound env remaining st1 st' hc.2 hs.2 h2 c2 (hg.frame f1) _ _
    | .allotment r items, st, st', hc, hs, h, hclean, hg => by
        simp only [checkDestination] at h
        obtain ⟨st1, acc, h1, h⟩ := an_bind_pair_eq_ok h
        cases h
        obtain ⟨i1, i2⟩ := sd_checkDstItems_sound env items st st1 {} acc r hc hs h1
          ((sd_Frame.of_an (an_checkDstItems_frame items h1)).split
            (.of_an (an_checkHasBadAllotmentSum_frame ..)) hclean).1 hg
        intro amount rcv
        simp only [receiveFrom]
        sd_bind (sd_ei_makeAllotment sd_dyn_static i1 _)
        exact i2 _ _

  theorem sd_checkKoD_sound (env : Env) : ∀ (k : KoD) (st st' : CState), k.Complete →
      k.ShapeOk → checkKoD st k = .ok st' → NoNewErrors st st' → sd_Good st env.vars →
      ∀ amount rcv, sd_NoStatic (receiveKoD env k amount rcv)
    | .nil, _, _, hc, _, _, _, _ => by simp [KoD.Complete] at hc
    | .kept _, _, _, _, _, _, _, _ => by
        intro amount rcv
        simp only [receiveKoD]; exact sd_ei_ok _ _
    | .to d, st, st', hc, hs, h, hclean, hg => by
        intro amount rcv
        simp only [receiveKoD]
        exact sd_checkDestination_sound env d st st' hc hs h hclean hg amount rcv

  theorem sd_checkClauses_sound (env : Env) : ∀ (cs : List DestClause) (st st' : CState),
      ClausesComplete cs → ClausesShapeOk cs → checkClauses st cs = .ok st' → NoNewErrors st st' →
      sd_Good st env.vars → ∀ left rcv, sd_NoStatic (receiveClauses env cs left rcv)
    | [], _, _, _, _, _, _, _ => by
        intro left rcv
        simp only [receiveClauses]; exact sd_ei_ok _ _
    | (.mk _ cap kd) :: rest, st, st', hc, hs, h, hclean, hg => by
        simp only [checkClauses] at h
        obtain ⟨st1, h1, h⟩ := an_bind_eq_ok h
        obtain ⟨st2, h2, h3⟩ := an_bind_eq_ok h
        have f1 := sd_checkExpression_frame cap h1
        have f2 := sd_Frame.of_grows (an_checkKoD_frame ..) h2
        obtain ⟨c1, c2, c3⟩ := f1.split3 f2 (.of_grows (an_checkClauses_frame ..) h3) hclean
        have i2 := sd_checkClauses_sound env rest st2 st' hc.2.2 hs.2 h3 c3 ((hg.frame f1).frame f2)
        intro left rcv
        simp only [receiveClauses]
        sd_bind (sd_evalAs_sound hc.1 h1 c1 hg fun _ => sd_ns_expectMonetaryOfAsset env.asset)
        split
        · exact sd_ei_ok _ _
        · split
          · exact i2 _ _
          · sd_bind (sd_checkKoD_sound env kd st1 st2 hc.2.1 hs.1 h2 c2 (hg.frame f1) _ _)
            exact i2 _ _

  theorem sd_checkDstItems_sound (env : Env) : ∀ (items : List DestItem) (st st' : CState)
      (acc acc' : AllotAcc) (w : Range), DstItemsComplete items → DstItemsShapeOk items →
      checkDstItems st items acc w = .ok (st', acc') → NoNewErrors st st' → sd_Good st env.vars →
      sd_DstItemsOk env items
    | [], _, _, _, _, _, _, _, _, _, _ => by
        refine ⟨?_, fun _ _ => ?_⟩
        · simp only [List.map_nil, evalAllotItems]; exact sd_ei_ok _ _
        · simp only [receiveAllotItems]; exact sd_ei_ok _ _
    | (.mk _ a kd) :: rest, st, st', acc, acc', w, hc, hs, h, hclean, hg => by
        simp only [checkDstItems] at h
        obtain ⟨st1, acc1, h1, h⟩ := an_bind_pair_eq_ok h
        obtain ⟨st2, h2, h3⟩ := an_bind_eq_ok h
        have f1 := sd_Frame.of_an (an_checkAllotValue_frame h1)
        have f2 := sd_Frame.of_grows (an_checkKoD_frame ..) h2
        obtain ⟨c1, c2, c3⟩ := f1.split3 f2 (.of_an (an_checkDstItems_frame rest h3)) hclean
        obtain ⟨j1, j2⟩ := sd_checkDstItems_sound env rest st2 st' acc1 acc' w hc.2.2 hs.2.2
          h3 c3 ((hg.frame f1).frame f2)
        refine ⟨sd_allotValue_sound hs.1 h1 c1 hg j1, fun parts rcv => ?_⟩
        cases parts with
        | nil => simp only [receiveAllotItems]; exact sd_ei_panic _ _
        | cons p ps =>
          simp only [receiveAllotItems]
          sd_bind (sd_checkKoD_sound env kd st1 st2 hc.2.1 hs.2.1 h2 c2 (hg.frame f1) _ _)
          exact j2 _ _
end

/-! ## function calls -/

theorem sd_checkExpressions_sound (vars : Vars) : ∀ (es : List Expr) (sig : List String)
    {st st' : CState}, ExprsComplete es → es.length = sig.length →
    checkExpressions st (es.zip sig) = .ok st' → NoNewErrors st st' → sd_Good st vars →
    sd_NoStatic (evalExprs vars es) ∧
      ∀ vs, evalExprs vars es = .ok vs → List.Forall₂ sd_HasType vs sig
  | [], [], _, _, _, _, _, _, _ => by
      refine ⟨sd_ei_ok _ _, fun vs hvs => ?_⟩
      cases hvs; exact .nil
  | [], _ :: _, _, _, _, hl, _, _, _ => by simp at hl
  | _ :: _, [], _, _, _, hl, _, _, _ => by simp at hl
  | e :: es, τ :: sig, st, st', hc, hl, h, hclean, hg => by
      simp only [List.zip_cons_cons, checkExpressions] at h
      obtain ⟨st1, h1, h2⟩ := an_bind_eq_ok h
      have f1 := sd_checkExpression_frame e h1
      obtain ⟨c1, c2⟩ := f1.split (.of_grows (an_checkExpressions_frame ..) h2) hclean
      have i1 := sd_checkExpression_sound e hc.1 h1 c1 hg
      obtain ⟨j1, j2⟩ := sd_checkExpressions_sound vars es sig hc.2 (by simpa using hl) h2 c2
        (hg.frame f1)
      simp only [evalExprs]
      rcases i1.cases with ⟨v, hv, ht⟩ | ⟨er, hv, hs⟩ <;> rw [hv]
      · simp only [Outcome.ok_bind]
        refine ⟨sd_ei_bind j1 fun _ _ => sd_ei_ok _ _, fun vs hvs => ?_⟩
        obtain ⟨vs', h1', h2'⟩ := Outcome.bind_eq_ok hvs
        cases h2'
        exact .cons ht (j2 vs' h1')
      · exact ⟨sd_ei_err hs, fun vs hvs => by cases hvs⟩

theorem sd_filter_complete (p : Expr → Bool) (hp : ∀ e, e.Complete → p e = true) :
    ∀ (es : List Expr), ExprsComplete es → es.filter p = es
  | [], _ => rfl
  | e :: es, hc => by
      simp [hp e hc.1, sd_filter_complete p hp es hc.2]

theorem sd_checkFnCallArity_resolved {fn : FnCall} {rr : Range}
    {bname : String} (hc : fn.Complete)
    (hfind : st.fnRes.find? (fun p => p.1 == fn.callerRange) = some (rr, bname))
    (h : checkFnCallArity st fn = .ok st') (hclean : NoNewErrors st st') (hg : sd_Good st vars) :
    sd_NoStatic (evalExprs vars fn.args) ∧
      ∀ vs, evalExprs vars fn.args = .ok vs → List.Forall₂ sd_HasType vs (builtinParams bname) := by
  unfold FnCall.Complete at hc
  unfold checkFnCallArity at h
  rw [sd_filter_complete _ (by intro e he; cases e <;> simp [Expr.Complete] at he ⊢) fn.args hc] at h
  simp only [hfind] at h
  obtain ⟨st2, h2, h⟩ := an_bind_eq_ok h
  have bad : ∀ r, st2 ≠ st.push r (.badArity (builtinParams bname).length fn.args.length) := by
    rintro r rfl
    exact sd_push_not_clean ((sd_Frame.push _ _ _).split (.of_grows (an_checkExpressions_frame ..) h) hclean).1
  split at h2
  · exact (bad _ (Outcome.ok.inj h2).symm).elim
  · split at h2
    · rename_i hgt
      split at h2
      · split at h2
        · exact (bad _ (Outcome.ok.inj h2).symm).elim
        · cases h2
      · rename_i hno
        exact (hno _ _ (List.getElem?_eq_getElem hgt)
          (List.getLast?_eq_some_getLast (by rintro he; simp [he] at hgt))).elim
    · cases h2
      rw [List.take_of_length_le (by omega)] at h
      exact sd_checkExpressions_sound vars fn.args _ hc (by omega) h hclean hg

theorem sd_checkFnCallArity_unresolved {fn : FnCall}
    (hfind : st.fnRes.find? (fun p => p.1 == fn.callerRange) = none)
    (h : checkFnCallArity st fn = .ok st') (hclean : NoNewErrors st st') : False := by
  unfold checkFnCallArity at h
  simp only [hfind] at h
  obtain ⟨st1, h1, h⟩ := an_bind_eq_ok h
  cases h
  exact sd_push_not_clean ((sd_Frame.of_grows (an_checkExpressions_frame ..) h1).split (.push _ _ _) hclean).2

/-! ## builtin table -/

theorem sd_builtinEntry_cases (n : String) :
    n = "balance" ∨ n = "meta" ∨ n = "overdraft" ∨ n = "set_account_meta" ∨ n = "set_tx_meta" ∨
      builtinEntry n = none := by
  by_cases h : n ∈ builtinsTable.map (·.1)
  · simpa [builtinsTable, or_assoc] using Or.inl (b := builtinEntry n = none) h
  · refine .inr (.inr (.inr (.inr (.inr ?_))))
    unfold builtinEntry
    rw [List.find?_eq_none]
    exact fun p hp hpn => h (List.mem_map.mpr ⟨p, hp, beq_iff_eq.mp hpn⟩)

theorem sd_statementBuiltin {n : String} (h : isStatementBuiltin n = true) :
    n = "set_tx_meta" ∧ builtinParams n = ["string", "any"] ∨
      n = "set_account_meta" ∧ builtinParams n = ["account", "string", "any"] := by
  rcases sd_builtinEntry_cases n with rfl | rfl | rfl | rfl | rfl | hn
  -- for each of the five names the claim is a closed fact about its table entry
  iterate 5 (revert h; decide)
  simp [isStatementBuiltin, hn] at h

theorem sd_originBuiltin {n : String} (h : isOriginBuiltin n = true) :
    n = "meta" ∧ builtinParams n = ["account", "string"] ∨
      (n = "balance" ∨ n = "overdraft") ∧ builtinParams n = ["account", "asset"] ∧
        builtinReturn n = "monetary" := by
  rcases sd_builtinEntry_cases n with rfl | rfl | rfl | rfl | rfl | hn
  iterate 5 (revert h; decide)
  simp [isOriginBuiltin, hn] at h

theorem sd_return_meta : builtinReturn "meta" = "any" := by
  simp [builtinReturn, builtinEntry, builtinsTable]

/-! ## statements -/

structure sd_StmtExt (st st' : CState) (R : List Range) : Prop where
  diags : ∃ l, st'.diags = st.diags ++ l
  declared : st'.declared = st.declared
  fnRes : ∀ p ∈ st'.fnRes, p ∈ st.fnRes ∨ p.1 ∈ R

theorem sd_fnRes_trans {a b c : CState} {R1 R2 : List Range}
    (h1 : ∀ p ∈ b.fnRes, p ∈ a.fnRes ∨ p.1 ∈ R1)
    (h2 : ∀ p ∈ c.fnRes, p ∈ b.fnRes ∨ p.1 ∈ R2) :
    ∀ p ∈ c.fnRes, p ∈ a.fnRes ∨ p.1 ∈ R1 ++ R2 := fun p hp =>
  (h2 p hp).elim (fun h => (h1 p h).imp_right fun h => List.mem_append.mpr (.inl h))
    fun h => .inr (List.mem_append.mpr (.inr h))

theorem sd_fnRes_fresh {a b : CState} {R1 R2 : List Range} (hnd : (R1 ++ R2).Nodup)
    (hfn : ∀ p ∈ a.fnRes, p.1 ∉ R1 ++ R2) (h : ∀ p ∈ b.fnRes, p ∈ a.fnRes ∨ p.1 ∈ R1) :
    ∀ p ∈ b.fnRes, p.1 ∉ R2 := fun p hp hr =>
  (h p hp).elim (fun h => hfn p h (List.mem_append.mpr (.inr hr)))
    fun h => (List.nodup_append.mp hnd).2.2 _ h _ hr rfl

theorem sd_StmtExt.of_ext {a b : CState} {R : List Range} (h : sd_Ext a b) : sd_StmtExt a b R :=
  ⟨h.diags, h.declared, fun _ hp => .inl (h.fnRes ▸ hp)⟩

theorem sd_StmtExt.of_frame {a b : CState} {R : List Range} (h : sd_Frame a b) : sd_StmtExt a b R :=
  .of_ext h.1

theorem sd_StmtExt.trans {a b c : CState} {R1 R2 : List Range} (h1 : sd_StmtExt a b R1)
    (h2 : sd_StmtExt b c R2) : sd_StmtExt a c (R1 ++ R2) :=
  ⟨append_trans h1.diags h2.diags, h2.declared.trans h1.declared, sd_fnRes_trans h1.fnRes h2.fnRes⟩

/-- `checkStatement` starts by resetting the emptied accounts (and, for a send, setting the
    send-all flag): `st0` is that state -/
theorem sd_checkStatement_save {r : Range} {sv : SentValue} {amount : Expr}
    (h : checkStatement st (.save r sv amount) = .ok st') :
    ∃ st0 st1, sd_Frame st st0 ∧ checkSentValue st0 sv = .ok st1 ∧
      checkExpression st1 amount "account" = .ok st' := by
  simp only [checkStatement] at h
  obtain ⟨st1, h1, h⟩ := an_bind_eq_ok h
  refine ⟨_, _, ?_, h1, h⟩
  exact .of_eq rfl rfl rfl rfl

theorem sd_checkStatement_send {r : Range} {sv : SentValue} {src : Source} {dst : Dest}
    (h : checkStatement st (.send r sv src dst) = .ok st') :
    ∃ st0 st1 st2, sd_Ext st st0 ∧ ((∃ r a, sv = .all r a) → st0.unboundedSend = true) ∧
      checkSentValue st0 sv = .ok st1 ∧ checkSource st1 src = .ok st2 ∧
      checkDestination st2 dst = .ok st' := by
  simp only [checkStatement] at h
  obtain ⟨st1, h1, h⟩ := an_bind_eq_ok h
  obtain ⟨st2, h2, h⟩ := an_bind_eq_ok h
  refine ⟨_, _, _, ?_, ?_, h1, h2, h⟩
  · exact ⟨append_refl _, rfl, rfl⟩
  · rintro ⟨r, a, rfl⟩; rfl

theorem sd_checkStatement_ext {s : Statement}
    (h : checkStatement st s = .ok st') : sd_StmtExt st st' s.fnRanges := by
  cases s with
  | nil =>
    simp only [checkStatement] at h; cases h
    exact .of_frame (.of_eq rfl rfl rfl rfl)
  | fnCallNil => simp only [checkStatement] at h; cases h
  | save r sv amount =>
    obtain ⟨st0, st1, f0, h1, h2⟩ := sd_checkStatement_save h
    exact .of_frame ((f0.trans (.of_grows (an_checkSentValue_frame ..) h1)).trans (sd_checkExpression_frame _ h2))
  | send r sv src dst =>
    obtain ⟨st0, st1, st2, e0, -, h1, h2, h3⟩ := sd_checkStatement_send h
    have f1 : sd_Frame st0 st1 := .of_grows (an_checkSentValue_frame ..) h1
    exact .of_ext (e0.trans ((f1.trans (.of_grows (an_checkSource_frame ..) h2)).trans
      (.of_grows (an_checkDestination_frame ..) h3)).1)
  | fnCall fn =>
    simp only [checkStatement] at h
    have f := sd_Frame.of_grows (an_checkFnCallArity_frame ..) h
    refine ⟨?_, ?_, fun p hp => ?_⟩
    · obtain ⟨l, e⟩ := f.1.diags
      exact ⟨l, by rw [e]; split <;> rfl⟩
    · rw [f.declared]; split <;> rfl
    · rw [f.fnRes] at hp
      split at hp
      · rcases List.mem_cons.mp hp with rfl | hp
        · exact .inr (by simp [Statement.fnRanges])
        · exact .inl hp
      · exact .inl hp

theorem sd_ei_trySendingExact {src : Source} (hP : sd_Dyn P) {amount : Int}
    {snd : Senders} (h : sd_ErrIn P (trySendingUpTo env src amount snd)) :
    sd_ErrIn P (trySendingExact env src amount snd) := by
  unfold trySendingExact
  sd_bind h
  split
  · exact sd_ei_ok _ _
  · exact sd_ei_err (hP _ rfl rfl)

def sd_SentOk (P : Err → Prop) (vars : Vars) : SentValue → Prop
  | .nil => True
  | .all _ a => sd_ErrIn P (evalAs vars a expectAsset)
  | .lit _ m => sd_ErrIn P (evalAs vars m expectMonetary)

theorem sd_ei_evaluateSentAmt {sv : SentValue}
    (h : sd_SentOk P vars sv) : sd_ErrIn P (evaluateSentAmt vars sv) := by
  cases sv with
  | nil => exact sd_ei_panic _ _
  | all r a => simp only [evaluateSentAmt]; sd_bind h; exact sd_ei_ok _ _
  | lit r m => simp only [evaluateSentAmt]; sd_bind h; exact sd_ei_ok _ _

theorem sd_ei_runSendStatement {sv : SentValue} {src : Source} {dst : Dest} {rst : RState}
    (hP : sd_Dyn P) (hsv : sd_SentOk P vars sv)
    (hall : (∃ r a, sv = .all r a) →
      ∀ cache asset, sd_ErrIn P (sendAll ⟨vars, cache, asset⟩ src []))
    (hsrc : ∀ cache asset n, sd_ErrIn P (trySendingUpTo ⟨vars, cache, asset⟩ src n []))
    (hdst : ∀ cache asset n, sd_ErrIn P (receiveFrom ⟨vars, cache, asset⟩ dst n [])) :
    sd_ErrIn P (runSendStatement vars rst sv src dst) := by
  cases sv with
  | nil => exact sd_ei_panic _ _
  | all r a =>
    simp only [runSendStatement]
    sd_bind hsv
    sd_bind (hall ⟨r, a, rfl⟩ _ _)
    sd_bind (hdst _ _ _)
    exact sd_ei_ok _ _
  | lit r m =>
    simp only [runSendStatement]
    sd_bind hsv
    split
    · exact sd_ei_err (hP _ rfl rfl)
    · sd_bind (sd_ei_trySendingExact hP (hsrc _ _ _))
      sd_bind (hdst _ _ _)
      exact sd_ei_ok _ _

theorem sd_ei_runSaveStatement {sv : SentValue} {rst : RState}
    (hP : sd_Dyn P) {amount : Expr} (hsv : sd_SentOk P vars sv)
    (hacc : sd_ErrIn P (evalAs vars amount expectAccount)) :
    sd_ErrIn P (runSaveStatement vars rst sv amount) := by
  unfold runSaveStatement
  sd_bind (sd_ei_evaluateSentAmt hsv)
  sd_bind hacc
  split
  · split
    · exact sd_ei_err (hP _ rfl rfl)
    · exact sd_ei_ok _ _
  · exact sd_ei_ok _ _

theorem sd_ei_runFnCall {fn : FnCall} {rst : RState}
    (hargs : sd_ErrIn P (evalExprs vars fn.args))
    (h2 : fn.name = "set_tx_meta" → ∀ vs, evalExprs vars fn.args = .ok vs →
      sd_ErrIn P (parseArgs2 vs expectString fun v => .ok v))
    (h3 : fn.name = "set_account_meta" → ∀ vs, evalExprs vars fn.args = .ok vs →
      sd_ErrIn P (parseArgs3 vs expectAccount expectString fun v => .ok v))
    (hu : fn.name ≠ "set_tx_meta" → fn.name ≠ "set_account_meta" → P (.unboundFunction fn.name)) :
    sd_ErrIn P (runStatement vars rst (.fnCall fn)) := by
  simp only [runStatement]
  sd_bind hargs
  split
  · sd_bind (h2 ‹_› _ ‹_›); exact sd_ei_ok _ _
  · split
    · sd_bind (h3 ‹_› _ ‹_›); exact sd_ei_ok _ _
    · exact sd_ei_err (hu ‹_› ‹_›)

theorem sd_ns_parseArgs2 {α β : Type} {e1 : Value → Outcome α} {e2 : Value → Outcome β}
    {t1 t2 : String}
    (h1 : ∀ v, sd_HasType v t1 → sd_NoStatic (e1 v)) (h2 : ∀ v, sd_HasType v t2 → sd_NoStatic (e2 v))
    {vs : List Value} (h : List.Forall₂ sd_HasType vs [t1, t2]) : sd_NoStatic (parseArgs2 vs e1 e2) := by
  obtain _ | ⟨ha, _ | ⟨hb, _ | _⟩⟩ := h
  exact sd_ei_bind (h1 _ ha) fun _ _ => sd_ei_bind (h2 _ hb) fun _ _ => sd_ei_ok _ _

theorem sd_ns_parseArgs3 {α β γ : Type} {e1 : Value → Outcome α} {e2 : Value → Outcome β}
    {e3 : Value → Outcome γ} {t1 t2 t3 : String} (h1 : ∀ v, sd_HasType v t1 → sd_NoStatic (e1 v))
    (h2 : ∀ v, sd_HasType v t2 → sd_NoStatic (e2 v)) (h3 : ∀ v, sd_HasType v t3 → sd_NoStatic (e3 v))
    {vs : List Value} (h : List.Forall₂ sd_HasType vs [t1, t2, t3]) :
    sd_NoStatic (parseArgs3 vs e1 e2 e3) := by
  obtain _ | ⟨ha, _ | ⟨hb, _ | ⟨hc, _ | _⟩⟩⟩ := h
  exact sd_ei_bind (h1 _ ha) fun _ _ => sd_ei_bind (h2 _ hb) fun _ _ =>
    sd_ei_bind (h3 _ hc) fun _ _ => sd_ei_ok _ _

theorem sd_checkSentValue_sound {st1 : CState} {sv : SentValue} (hc : sv.Complete)
    (h : checkSentValue st sv = .ok st1) (hclean : NoNewErrors st st1) (hg : sd_Good st vars) :
    sd_SentOk (fun e => e.isStaticClass = false) vars sv := by
  cases sv with
  | nil => trivial
  | all r a => exact sd_evalAs_sound hc h hclean hg fun _ => sd_ns_expectAsset
  | lit r m => exact sd_evalAs_sound hc h hclean hg fun _ => sd_ns_expectMonetary

theorem sd_checkStatement_sound (vars : Vars) (s : Statement) (st st' : CState) (hc : s.Complete)
    (hs : s.ShapeOk) (h : checkStatement st s = .ok st') (hclean : NoNewErrors st st')
    (hg : sd_Good st vars) (hfn : ∀ p ∈ st.fnRes, p.1 ∉ s.fnRanges) :
    (∀ rst, sd_NoStatic (runStatement vars rst s)) ∧
      ∀ p, sd_NoStatic (findBalancesQueriesInStatement vars s p) := by
  cases s with
  | nil => simp [Statement.Complete] at hc
  | fnCallNil => simp [Statement.Complete] at hc
  | save r sv amount =>
    obtain ⟨st0, st1, f0, h1, h2⟩ := sd_checkStatement_save h
    have f1 := f0.trans (.of_grows (an_checkSentValue_frame ..) h1)
    obtain ⟨-, c1, c2⟩ :=
      f0.split3 (.of_grows (an_checkSentValue_frame ..) h1) (sd_checkExpression_frame _ h2) hclean
    have hsv := sd_checkSentValue_sound hc.1 h1 c1 (hg.frame f0)
    have hacc := sd_evalAs_sound hc.2 h2 c2 (hg.frame f1) fun _ => sd_ns_expectAccount
    refine ⟨fun rst => sd_ei_runSaveStatement sd_dyn_static hsv hacc, fun p => ?_⟩
    simp only [findBalancesQueriesInStatement]
    sd_bind (sd_ei_evaluateSentAmt hsv)
    sd_bind hacc
    exact sd_ei_ok _ _
  | send r sv src dst =>
    obtain ⟨st0, st1, st2, e0, -, h1, h2, h3⟩ := sd_checkStatement_send h
    have f1 := sd_Frame.of_grows (an_checkSentValue_frame ..) h1
    have f2 := sd_Frame.of_grows (an_checkSource_frame ..) h2
    have f3 := sd_Frame.of_grows (an_checkDestination_frame ..) h3
    obtain ⟨c1, c2, c3⟩ := f1.split3 f2 f3
      (sd_clean_split e0.diags ((f1.trans f2).trans f3).1.diags hclean).2
    have hg1 : sd_Good st1 vars := (hg.congr e0.declared).frame f1
    have hsv := sd_checkSentValue_sound hc.1 h1 c1 (hg.congr e0.declared)
    have hsrc := fun cache asset =>
      sd_checkSource_sound ⟨vars, cache, asset⟩ src st1 st2 hc.2.1 hs.1 h2 c2 hg1
    refine ⟨fun rst => sd_ei_runSendStatement sd_dyn_static hsv
      (fun _ cache asset => (hsrc cache asset).2.1 _) (fun cache asset n => (hsrc cache asset).1 n _)
      fun cache asset n => sd_checkDestination_sound ⟨vars, cache, asset⟩ dst st2 st' hc.2.2 hs.2 h3 c3
        (hg1.frame f2) n _, fun p => ?_⟩
    simp only [findBalancesQueriesInStatement]
    sd_bind (sd_ei_evaluateSentAmt hsv)
    rename_i asset _ _
    exact (hsrc [] asset).2.2 asset p
  | fnCall fn =>
    simp only [checkStatement] at h
    refine ⟨fun rst => ?_, fun _ => sd_ei_ok _ _⟩
    have hnone : st.fnRes.find? (fun p => p.1 == fn.callerRange) = none := by
      rw [List.find?_eq_none]
      intro p hp
      simpa [Statement.fnRanges] using hfn p hp
    by_cases hb : isStatementBuiltin fn.name = true
    · simp only [hb, if_true] at h
      obtain ⟨i1, i2⟩ := sd_checkFnCallArity_resolved (vars := vars) (rr := fn.callerRange)
        (bname := fn.name) hc (by simp [List.find?]) h hclean (hg.congr rfl)
      refine sd_ei_runFnCall i1 (fun hn vs hvs => ?_) (fun hn vs hvs => ?_) fun h1 h2 => ?_
      · rcases sd_statementBuiltin hb with ⟨-, hp⟩ | ⟨hn', -⟩
        · exact sd_ns_parseArgs2 (fun _ => sd_ns_expectString) (fun _ _ => sd_ei_ok _ _) (hp ▸ i2 vs hvs)
        · exact absurd (hn.symm.trans hn') (by decide)
      · rcases sd_statementBuiltin hb with ⟨hn', -⟩ | ⟨-, hp⟩
        · exact absurd (hn.symm.trans hn') (by decide)
        · exact sd_ns_parseArgs3 (fun _ => sd_ns_expectAccount) (fun _ => sd_ns_expectString)
            (fun _ _ => sd_ei_ok _ _) (hp ▸ i2 vs hvs)
      · rcases sd_statementBuiltin hb with ⟨hn', -⟩ | ⟨hn', -⟩
        · exact (h1 hn').elim
        · exact (h2 hn').elim
    · simp only [hb] at h
      exact (sd_checkFnCallArity_unresolved (by simpa using hnone) h hclean).elim

theorem sd_checkStatements_cons {s : Statement} {ss : List Statement}
    (h : checkStatements st (s :: ss) = .ok st') :
    ∃ st1, checkStatement { st with unboundedAccountInSend := false } s = .ok st1 ∧
      checkStatements st1 ss = .ok st' := by
  simp only [checkStatements] at h
  obtain ⟨st1, h1, h⟩ := an_bind_eq_ok h
  exact ⟨_, h1, h⟩

theorem sd_checkStatements_ext : ∀ (ss : List Statement) {st st' : CState},
    checkStatements st ss = .ok st' → sd_StmtExt st st' (sd_stmtsFnRanges ss)
  | [], _, _, h => by
      simp only [checkStatements] at h; cases h
      exact .of_frame (.refl _)
  | s :: ss, _, _, h => by
      obtain ⟨st1, h1, h2⟩ := sd_checkStatements_cons h
      have e1 := sd_checkStatement_ext h1
      exact .trans ⟨e1.diags, e1.declared, e1.fnRes⟩ (sd_checkStatements_ext ss h2)

theorem sd_checkStatements_sound (vars : Vars) : ∀ (ss : List Statement) (st st' : CState),
    StatementsComplete ss → (∀ s ∈ ss, s.ShapeOk) → checkStatements st ss = .ok st' →
    NoNewErrors st st' → sd_Good st vars → (∀ p ∈ st.fnRes, p.1 ∉ sd_stmtsFnRanges ss) →
    (sd_stmtsFnRanges ss).Nodup →
    (∀ rst, sd_NoStatic (runStatements vars ss rst)) ∧ ∀ p, sd_NoStatic (preload vars ss p)
  | [], _, _, _, _, _, _, _, _, _ => by
      refine ⟨fun rst => ?_, fun p => ?_⟩
      · simp only [runStatements]; exact sd_ei_ok _ _
      · simp only [preload]; exact sd_ei_ok _ _
  | s :: ss, st, st', hc, hs, h, hclean, hg, hfn, hnd => by
      obtain ⟨st1, h1, h2⟩ := sd_checkStatements_cons h
      have e1 := sd_checkStatement_ext h1
      obtain ⟨c1, c2⟩ : NoNewErrors { st with unboundedAccountInSend := false } st1 ∧
          NoNewErrors st1 st' :=
        sd_clean_split e1.diags (sd_checkStatements_ext ss h2).diags hclean
      obtain ⟨i1, i2⟩ := sd_checkStatement_sound vars s _ st1 hc.1 (hs s (by simp)) h1 c1
        (hg.congr rfl) fun p hp hr => hfn p hp (List.mem_append.mpr (.inl hr))
      obtain ⟨j1, j2⟩ := sd_checkStatements_sound vars ss st1 st' hc.2
        (fun s' hs' => hs s' (by simp [hs'])) h2 c2 (hg.congr e1.declared)
        (sd_fnRes_fresh hnd hfn e1.fnRes) (List.nodup_append.mp hnd).2.1
      refine ⟨fun rst => ?_, fun p => ?_⟩
      · simp only [runStatements]
        sd_bind (i1 _)
        sd_bind (j1 _)
        exact sd_ei_ok _ _
      · simp only [preload]; sd_bind (i2 _); exact j2 _

/-! ## variable declarations -/

theorem sd_ei_parseMonetary (hP : sd_Dyn P) (s : String) :
    sd_ErrIn P (parseMonetary s) := by
  unfold parseMonetary
  split
  · split
    · exact sd_ei_ok _ _
    · exact sd_ei_err (hP _ rfl rfl)
  · exact sd_ei_err (hP _ rfl rfl)

theorem sd_parseMonetary_type {v : Value} {s : String} (h : parseMonetary s = .ok v) :
    v.typeName = "monetary" := by
  unfold parseMonetary at h
  split at h
  · split at h <;> cases h
    rfl
  · cases h

theorem sd_ei_ParsePortionSpecific (hP : sd_Dyn P) (s : String) :
    sd_ErrIn P (ParsePortionSpecific s) := by
  unfold ParsePortionSpecific
  extract_lets cs res
  have hres : sd_ErrIn P res := by
    unfold res
    split
    · exact sd_ei_ok _ _
    · split
      · split
        · exact sd_ei_err (hP _ rfl rfl)
        · exact sd_ei_ok _ _
      · exact sd_ei_ok _ _
  clear_value res
  split
  · exact sd_ei_panic _ _
  · exact sd_ei_err (hres _ rfl)
  · exact sd_ei_err (hP _ rfl rfl)
  · split
    · exact sd_ei_err (hP _ rfl rfl)
    · exact sd_ei_ok _ _

theorem sd_ei_parseVar {ty : String} (hP : sd_Dyn P)
    (hty : ty ∉ allowedTypes → P (.invalidType ty)) (raw : String) : sd_ErrIn P (parseVar ty raw) := by
  unfold parseVar
  split
  · exact sd_ei_parseMonetary hP raw
  split
  · split
    · exact sd_ei_ok _ _
    · exact sd_ei_err (hP _ rfl rfl)
  split
  · split
    · exact sd_ei_ok _ _
    · exact sd_ei_of_eq_err (sd_ei_ParsePortionSpecific hP raw) ‹_›
    · exact sd_ei_panic _ _
  split
  · exact sd_ei_ok _ _
  split
  · split
    · exact sd_ei_ok _ _
    · exact sd_ei_err (hP _ rfl rfl)
  split
  · exact sd_ei_ok _ _
  · exact sd_ei_err (hty (by simp [allowedTypes, *]))

theorem sd_parseVar_type {v : Value} {ty raw : String} (h : parseVar ty raw = .ok v) :
    v.typeName = ty := by
  unfold parseVar at h
  split at h
  · subst ty; exact sd_parseMonetary_type h
  split at h
  · subst ty; split at h <;> cases h; rfl
  split at h
  · subst ty; split at h <;> cases h; rfl
  split at h
  · subst ty; cases h; rfl
  split at h
  · subst ty; split at h <;> cases h; rfl
  split at h
  · subst ty; cases h; rfl
  · cases h

theorem sd_ei_getBalance (hP : sd_Dyn P) (store : Store) (q : QState)
    (account asset : String) : sd_ErrIn P (getBalance store q account asset) := by
  unfold getBalance
  dsimp only
  split
  · exact sd_ei_err (hP _ rfl rfl)
  · exact sd_ei_ok _ _

theorem sd_ei_handleOrigin {ty : String} {fn : FnCall} {store : Store} {flag : Bool} {q : QState}
    (hP : sd_Dyn P) (hargs : sd_ErrIn P (evalExprs vars fn.args))
    (hmeta : fn.name = "meta" → ∀ vs, evalExprs vars fn.args = .ok vs →
      sd_ErrIn P (parseArgs2 vs expectAccount expectString))
    (hbal : fn.name = "balance" ∨ fn.name = "overdraft" → ∀ vs, evalExprs vars fn.args = .ok vs →
      sd_ErrIn P (parseArgs2 vs expectAccount expectAsset))
    (hpv : ∀ raw, sd_ErrIn P (parseVar ty raw))
    (hu : fn.name ≠ "meta" → fn.name ≠ "balance" → fn.name ≠ "overdraft" →
      P (.unboundFunction fn.name)) :
    sd_ErrIn P (handleOrigin store flag vars q ty fn) := by
  unfold handleOrigin
  sd_bind hargs
  split
  · sd_bind (hmeta ‹_› _ ‹_›)
    split
    · exact sd_ei_err (hP _ rfl rfl)
    · dsimp only
      split
      · exact sd_ei_err (hP _ rfl rfl)
      · sd_bind (hpv _)
        exact sd_ei_ok _ _
  split
  · sd_bind (hbal (.inl ‹_›) _ ‹_›)
    sd_bind (sd_ei_getBalance hP _ _ _ _)
    split
    · exact sd_ei_err (hP _ rfl rfl)
    · exact sd_ei_ok _ _
  split
  · split
    · exact sd_ei_err (hP _ rfl rfl)
    · sd_bind (hbal (.inr ‹_›) _ ‹_›)
      sd_bind (sd_ei_getBalance hP _ _ _ _)
      split <;> exact sd_ei_ok _ _
  · exact sd_ei_err (hu ‹_› ‹_› ‹_›)

theorem sd_handleOrigin_type {v : Value} {ty : String} {fn : FnCall} {store : Store} {flag : Bool}
    {q q' : QState} (h : handleOrigin store flag vars q ty fn = .ok (v, q'))
    (hm : fn.name ≠ "meta" → ty = "monetary") : v.typeName = ty := by
  unfold handleOrigin at h
  -- the branches that return a value return what `parseVar ty` gave (`meta`) or a monetary (the others)
  repeat' split at h
  all_goals first
    | (cases h; done)
    | (cases h; exact sd_parseVar_type ‹_›)
    | (cases h; exact (hm ‹_›).symm)

theorem sd_checkVarOrigin_sound {tr nr : Range} {ty name : String} {fn : FnCall} {d : VarDecl}
    {store : Store} {flag : Bool}
    (hn : d.name = some (nr, name)) (ht : d.type = some (tr, ty)) (hta : isTypeAllowed ty = true)
    (hc : fn.Complete) (h : checkVarOrigin st fn d = .ok st') (hclean : NoNewErrors st st')
    (hg : sd_Good st vars) (hfn : ∀ p ∈ st.fnRes, p.1 ≠ fn.callerRange) (q : QState) :
    sd_NoStatic (handleOrigin store flag vars q ty fn) ∧
      ∀ v q', handleOrigin store flag vars q ty fn = .ok (v, q') → v.typeName = ty := by
  unfold checkVarOrigin at h
  by_cases hb : isOriginBuiltin fn.name = true
  · simp only [hb, if_true, ht, hn] at h
    obtain ⟨st2, h2, h⟩ := an_bind_eq_ok h
    have f2 := sd_Frame.of_grows (an_assertHasType_frame ..) h2
    obtain ⟨c1, c2⟩ : NoNewErrors { st with fnRes := (fn.callerRange, fn.name) :: st.fnRes } st2 ∧
        NoNewErrors st2 st' := f2.split (.of_grows (an_checkFnCallArity_frame ..) h) hclean
    have hret := sd_assertHasType_clean h2 c1
    obtain ⟨i1, i2⟩ := sd_checkFnCallArity_resolved (vars := vars) (rr := fn.callerRange)
      (bname := fn.name) hc (by rw [f2.fnRes]; simp [List.find?]) h c2 (hg.congr f2.declared)
    have sig := sd_originBuiltin hb
    refine ⟨sd_ei_handleOrigin sd_dyn_static i1 (fun hm vs hvs => ?_) (fun hm vs hvs => ?_)
      (fun raw => sd_ei_parseVar sd_dyn_static (fun h => absurd hta (by simpa [isTypeAllowed] using h)) raw)
      fun h1 h2 h3 => ?_, fun v q' hv => sd_handleOrigin_type hv fun hne => ?_⟩
    · rcases sig with ⟨-, hp⟩ | ⟨hm', -⟩
      · exact sd_ns_parseArgs2 (fun _ => sd_ns_expectAccount) (fun _ => sd_ns_expectString)
          (hp ▸ i2 vs hvs)
      · rcases hm' with hm' | hm' <;> exact absurd (hm.symm.trans hm') (by decide)
    · rcases sig with ⟨hm', -⟩ | ⟨-, hp, -⟩
      · rcases hm with hm | hm <;> exact absurd (hm.symm.trans hm') (by decide)
      · exact sd_ns_parseArgs2 (fun _ => sd_ns_expectAccount) (fun _ => sd_ns_expectAsset)
          (hp ▸ i2 vs hvs)
    · rcases sig with ⟨hm, -⟩ | ⟨hm | hm, -⟩
      · exact (h1 hm).elim
      · exact (h2 hm).elim
      · exact (h3 hm).elim
    · rcases sig with ⟨hm, -⟩ | ⟨-, -, hr⟩
      · exact (hne hm).elim
      · exact ((hr ▸ hret).resolve_left (by decide)).symm
  · simp only [hb] at h
    exact (sd_checkFnCallArity_unresolved (List.find?_eq_none.mpr fun p hp => by simpa using hfn p hp)
      h hclean).elim

structure sd_DeclExt (st st' : CState) (R : List Range) : Prop where
  diags : ∃ l, st'.diags = st.diags ++ l
  fnRes : ∀ p ∈ st'.fnRes, p ∈ st.fnRes ∨ p.1 ∈ R

theorem sd_checkVarOrigin_ext {fn : FnCall} {d : VarDecl}
    (h : checkVarOrigin st fn d = .ok st') : sd_StmtExt st st' [fn.callerRange] := by
  unfold checkVarOrigin at h
  by_cases hb : isOriginBuiltin fn.name = true
  · simp only [hb, if_true] at h
    obtain ⟨st2, h2, h⟩ := an_bind_eq_ok h
    have f2 : sd_Frame { st with fnRes := (fn.callerRange, fn.name) :: st.fnRes } st2 := by
      split at h2
      · exact .of_grows (an_assertHasType_frame ..) h2
      · cases h2; exact .refl _
    have f := f2.trans (.of_grows (an_checkFnCallArity_frame ..) h)
    refine ⟨f.1.diags, f.declared, fun p hp => ?_⟩
    rw [f.fnRes] at hp
    exact (List.mem_cons.mp hp).elim (fun h => .inr (by simp [h])) .inl
  · simp only [hb] at h
    exact .of_frame (.of_grows (an_checkFnCallArity_frame ..) h)

/-- `checkVarDecl` after the validity of the declared type was looked at -/
def sd_declTail (st1 : CState) (d : VarDecl) : Outcome CState :=
  let st2 : Outcome CState := match d.origin with
    | some fn => checkVarOrigin st1 fn d
    | none => .ok st1
  match st2 with
  | .panic s => .panic s
  | .err e => .err e
  | .ok st3 =>
    match d.name with
    | some (r, name) =>
        if st3.declared.any (fun p => p.1 == name) then .ok (st3.push r (.duplicateVariable name))
        else .ok { st3 with declared := st3.declared ++ [(name, d)], unused := st3.unused ++ [(name, r)] }
    | none => .ok st3

theorem sd_checkVarDecl_eq (st : CState) (d : VarDecl) :
    checkVarDecl st d = sd_declTail (match d.type with
      | some (r, t) => if isTypeAllowed t then st else st.push r (.invalidType t)
      | none => st) d := rfl

theorem sd_declTail_cases {st1 : CState} {d : VarDecl} (h : sd_declTail st1 d = .ok st') :
    ∃ st3, sd_StmtExt st1 st3 d.fnRanges ∧
      (∀ fn, d.origin = some fn → checkVarOrigin st1 fn d = .ok st3) ∧
      match d.name with
      | some (r, name) =>
        if st3.declared.any (fun p => p.1 == name) then st' = st3.push r (.duplicateVariable name)
        else st' = { st3 with declared := st3.declared ++ [(name, d)], unused := st3.unused ++ [(name, r)] }
      | none => st' = st3 := by
  unfold sd_declTail at h
  obtain ⟨st3, h3, h⟩ := an_bind_eq_ok h
  refine ⟨st3, ?_, ?_, ?_⟩
  · unfold VarDecl.fnRanges
    cases ho : d.origin with
    | some fn => rw [ho] at h3; exact sd_checkVarOrigin_ext h3
    | none => rw [ho] at h3; cases h3; exact .of_frame (.refl _)
  · intro fn ho
    rw [ho] at h3
    exact h3
  · split at h
    · split at h <;> rename_i hd
      · rw [if_pos hd]; exact (Outcome.ok.inj h).symm
      · rw [if_neg hd]; exact (Outcome.ok.inj h).symm
    · exact (Outcome.ok.inj h).symm

theorem sd_declTail_ext {st1 : CState} {d : VarDecl} (h : sd_declTail st1 d = .ok st') :
    sd_DeclExt st1 st' d.fnRanges := by
  obtain ⟨st3, e3, -, h⟩ := sd_declTail_cases h
  have : sd_DeclExt st3 st' [] := by
    split at h
    · split at h <;> subst h
      · exact ⟨⟨[_], rfl⟩, fun p hp => .inl hp⟩
      · exact ⟨append_refl _, fun p hp => .inl hp⟩
    · subst h; exact ⟨append_refl _, fun p hp => .inl hp⟩
  exact ⟨append_trans e3.diags this.diags, by simpa using sd_fnRes_trans e3.fnRes this.fnRes⟩

theorem sd_checkVarDecl_ext {d : VarDecl} (h : checkVarDecl st d = .ok st') :
    sd_DeclExt st st' d.fnRanges := by
  rw [sd_checkVarDecl_eq] at h
  have e := sd_declTail_ext h
  have f : sd_Frame st (match d.type with
      | some (r, t) => if isTypeAllowed t then st else st.push r (.invalidType t)
      | none => st) := by
    split
    · exact ite_of (.refl _) (.push _ _ _)
    · exact .refl _
  exact ⟨append_trans f.1.diags e.diags, fun p hp => f.fnRes ▸ e.fnRes p hp⟩

theorem sd_lookupDecl_none_of_any {name : String}
    (h : ¬ (st.declared.any (fun p => p.1 == name)) = true) : lookupDecl st name = none := by
  unfold lookupDecl
  rw [Option.map_eq_none_iff, List.find?_eq_none]
  intro p hp hpn
  exact h (List.any_eq_true.mpr ⟨p, hp, hpn⟩)

theorem sd_Good_declare {v : Value} {tr : Range} {ty name : String} {d : VarDecl}
    (hg : sd_Good st vars) (hnew : lookupDecl st name = none)
    (hd : st'.declared = st.declared ++ [(name, d)]) (ht : d.type = some (tr, ty))
    (hta : isTypeAllowed ty = true) (hv : v.typeName = ty) : sd_Good st' ((name, v) :: vars) := by
  have hl : ∀ n, lookupDecl st' n = some d ∧ n = name ∨
      lookupDecl st' n = lookupDecl st n ∧ n ≠ name := by
    intro n
    unfold lookupDecl
    rw [hd, List.find?_append]
    by_cases hn : n = name
    · subst hn
      unfold lookupDecl at hnew
      rw [Option.map_eq_none_iff] at hnew
      simp [hnew]
    · cases List.find? (fun p => p.1 == n) st.declared <;> simp [hn, Ne.symm hn]
  constructor
  · intro n d' r t h1 h2 h3
    rcases hl n with ⟨h, rfl⟩ | ⟨h, hn⟩
    · rw [h] at h1
      cases h1
      rw [ht] at h2
      cases h2
      exact ⟨v, by simp [lookupVar], hv⟩
    · obtain ⟨v', hv1, hv2⟩ := hg.1 n d' r t (h ▸ h1) h2 h3
      refine ⟨v', ?_, hv2⟩
      unfold lookupVar at hv1 ⊢
      rw [List.find?_cons_of_neg (by simpa using Ne.symm hn)]
      exact hv1
  · intro n d' h1
    rcases hl n with ⟨h, rfl⟩ | ⟨h, hn⟩
    · rw [h] at h1
      cases h1
      exact ⟨tr, ty, ht, hta⟩
    · exact hg.2 n d' (h ▸ h1)

theorem sd_checkVarDecl_sound {d : VarDecl} {store : Store} {flag : Bool}
    (hc : d.Complete) (h : checkVarDecl st d = .ok st')
    (hclean : NoNewErrors st st')
    (hg : sd_Good st vars) (hfn : ∀ p ∈ st.fnRes, p.1 ∉ d.fnRanges) :
    ∃ nr name tr ty, d.name = some (nr, name) ∧ d.type = some (tr, ty) ∧ isTypeAllowed ty = true ∧
      lookupDecl st name = none ∧ st'.declared = st.declared ++ [(name, d)] ∧
      ∀ fn, d.origin = some fn → ∀ q, sd_NoStatic (handleOrigin store flag vars q ty fn) ∧
        ∀ v q', handleOrigin store flag vars q ty fn = .ok (v, q') → v.typeName = ty := by
  obtain ⟨hcn, hct, hco⟩ := hc
  obtain ⟨⟨nr, name⟩, hn⟩ := Option.isSome_iff_exists.mp hcn
  obtain ⟨⟨tr, ty⟩, ht⟩ := Option.isSome_iff_exists.mp hct
  rw [sd_checkVarDecl_eq] at h
  simp only [ht] at h
  have e := sd_declTail_ext h
  obtain ⟨st3, e3, ho, h3⟩ := sd_declTail_cases h
  simp only [hn] at h3
  by_cases hta : isTypeAllowed ty = true
  swap
  · simp only [hta] at e
    exact (sd_push_not_clean
      (sd_clean_split (sd_Frame.push st tr (.invalidType ty)).1.diags e.diags hclean).1).elim
  simp only [hta, if_true] at e3 ho
  refine ⟨nr, name, tr, ty, hn, ht, hta, ?_⟩
  split at h3
  · subst h3
    exact (sd_push_not_clean (sd_clean_split e3.diags (sd_Frame.push _ _ _).1.diags hclean).2).elim
  · rename_i hdup
    subst h3
    refine ⟨?_, by simp only [e3.declared], fun fn hfn' q => ?_⟩
    · rw [e3.declared] at hdup
      exact sd_lookupDecl_none_of_any hdup
    · exact sd_checkVarOrigin_sound hn ht hta (hco fn hfn') (ho fn hfn') hclean hg
        (fun p hp he => hfn p hp (by simp [VarDecl.fnRanges, hfn', he])) q

theorem sd_checkVarDecls_cons {d : VarDecl} {ds : List VarDecl}
    (h : checkVarDecls st (d :: ds) = .ok st') :
    ∃ st1, checkVarDecl st d = .ok st1 ∧ checkVarDecls st1 ds = .ok st' := by
  simp only [checkVarDecls] at h
  obtain ⟨st1, h1, h⟩ := an_bind_eq_ok h
  exact ⟨_, h1, h⟩

theorem sd_checkVarDecls_ext : ∀ (ds : List VarDecl) {st st' : CState},
    checkVarDecls st ds = .ok st' → sd_DeclExt st st' (sd_declsFnRanges ds)
  | [], _, _, h => by
      simp only [checkVarDecls] at h; cases h
      exact ⟨append_refl _, fun p hp => .inl hp⟩
  | d :: ds, _, _, h => by
      obtain ⟨st1, h1, h2⟩ := sd_checkVarDecls_cons h
      have e1 := sd_checkVarDecl_ext h1
      have e2 := sd_checkVarDecls_ext ds h2
      exact ⟨append_trans e1.diags e2.diags, sd_fnRes_trans e1.fnRes e2.fnRes⟩

theorem sd_checkVarDecls_sound (store : Store) (flag : Bool) (rawVars : List (String × String))
    (R : List Range) : ∀ (ds : List VarDecl) (st st' : CState) (vars : Vars) (q : QState),
    VarDeclsComplete ds → checkVarDecls st ds = .ok st' → NoNewErrors st st' → sd_Good st vars →
    (∀ p ∈ st.fnRes, p.1 ∉ sd_declsFnRanges ds ++ R) → (sd_declsFnRanges ds ++ R).Nodup →
    sd_NoStatic (parseVars store flag rawVars ds vars q) ∧
      (∀ vars' q', parseVars store flag rawVars ds vars q = .ok (vars', q') → sd_Good st' vars')
  | [], st, st', vars, q, _, h, _, hg, _, _ => by
      simp only [checkVarDecls] at h; cases h
      refine ⟨sd_ei_ok _ _, fun vars' q' hv => ?_⟩
      simp only [parseVars] at hv; cases hv; exact hg
  | d :: ds, st, st', vars, q, hc, h, hclean, hg, hfn, hnd => by
      obtain ⟨st1, h1, h2⟩ := sd_checkVarDecls_cons h
      simp only [sd_declsFnRanges, List.append_assoc] at hfn hnd
      have e1 := sd_checkVarDecl_ext h1
      obtain ⟨c1, c2⟩ := sd_clean_split e1.diags (sd_checkVarDecls_ext ds h2).diags hclean
      obtain ⟨nr, name, tr, ty, hn, ht, hta, hnew, hd, horig⟩ :=
        sd_checkVarDecl_sound (store := store) (flag := flag) hc.1 h1 c1 hg
          fun p hp hr => hfn p hp (List.mem_append.mpr (.inl hr))
      have step : ∀ v : Value, v.typeName = ty → ∀ q2, _ := fun v hv q2 =>
        sd_checkVarDecls_sound store flag rawVars R ds st1 st' ((name, v) :: vars) q2 hc.2 h2 c2
          (sd_Good_declare hg hnew hd ht hta hv) (sd_fnRes_fresh hnd hfn e1.fnRes)
          (List.nodup_append.mp hnd).2.1
      simp only [parseVars, hn, ht]
      cases ho : d.origin with
      | none =>
        dsimp only
        constructor
        · split
          · exact sd_ei_err rfl
          · sd_bind (sd_ei_parseVar sd_dyn_static
              (fun h => absurd hta (by simpa [isTypeAllowed] using h)) _)
            exact (step _ (sd_parseVar_type ‹_›) q).1
        · intro vars' q' hv
          split at hv
          · cases hv
          · split at hv
            · cases hv
            · cases hv
            · exact (step _ (sd_parseVar_type ‹_›) q).2 vars' q' hv
      | some fn =>
        obtain ⟨o1, o2⟩ := horig fn ho q
        dsimp only
        constructor
        · sd_bind o1
          exact (step _ (o2 _ _ ‹_›) _).1
        · intro vars' q' hv
          split at hv
          · cases hv
          · cases hv
          · exact (step _ (o2 _ _ ‹_›) _).2 vars' q' hv

/-! ## whole programs -/

theorem sd_foldl_unused_diags (l : List (String × Range)) (st : CState) :
    (l.foldl (fun s p => s.push p.2 (.unusedVar p.1)) st).diags =
      st.diags ++ l.map (fun p => ⟨p.2, .unusedVar p.1⟩) := by
  induction l generalizing st with
  | nil => simp
  | cons a l ih =>
    rw [List.foldl_cons, ih]
    simp [CState.push]

theorem sd_foldl_unused_errorCount (l : List (String × Range)) (st : CState) :
    errorCount (l.foldl (fun s p => s.push p.2 (.unusedVar p.1)) st).diags = errorCount st.diags := by
  induction l generalizing st with
  | nil => rfl
  | cons a l ih =>
    rw [List.foldl_cons, ih, sd_errorCount_push,
      sd_severity_eq (k := .unusedVar a.1) (s := 2) (by simp [DiagKind.name, sd_severities])]
    rfl

theorem sd_checkProgram_cases {prog : Program} (h : checkProgram [] prog = .ok st) :
    ∃ st1 st2, checkVarDecls { diags := [] } prog.vars = .ok st1 ∧
      checkStatements st1 prog.stmts = .ok st2 ∧
      st = st2.unused.foldl (fun s p => s.push p.2 (.unusedVar p.1)) st2 := by
  unfold checkProgram at h
  obtain ⟨st1, h1, h⟩ := an_bind_eq_ok h
  obtain ⟨st2, h2, h⟩ := an_bind_eq_ok h
  exact ⟨_, _, h1, h2, (Outcome.ok.inj h).symm⟩

/-! ## send-all shape errors: where they cannot come from -/

theorem sd_sh_expectMonetary (v : Value) : sd_NoShape (expectMonetary v) := by
  cases v <;> first | exact sd_ei_ok _ _ | exact sd_ei_err rfl
theorem sd_sh_expectNumber (v : Value) : sd_NoShape (expectNumber v) := by
  cases v <;> first | exact sd_ei_ok _ _ | exact sd_ei_err rfl
theorem sd_sh_expectString (v : Value) : sd_NoShape (expectString v) := by
  cases v <;> first | exact sd_ei_ok _ _ | exact sd_ei_err rfl
theorem sd_sh_expectAsset (v : Value) : sd_NoShape (expectAsset v) := by
  cases v <;> first | exact sd_ei_ok _ _ | exact sd_ei_err rfl
theorem sd_sh_expectAccount (v : Value) : sd_NoShape (expectAccount v) := by
  cases v <;> first | exact sd_ei_ok _ _ | exact sd_ei_err rfl
theorem sd_sh_expectPortion (v : Value) : sd_NoShape (expectPortion v) := by
  cases v <;> first | exact sd_ei_ok _ _ | exact sd_ei_err rfl

theorem sd_sh_evalExpr (vars : Vars) : ∀ (e : Expr), sd_NoShape (evalExpr vars e)
  | .nil => sd_ei_panic _ _
  | .monetaryNil => sd_ei_panic _ _
  | .var _ _ => by
      unfold evalExpr
      split
      · exact sd_ei_ok _ _
      · exact sd_ei_err rfl
  | .asset _ _ => sd_ei_ok _ _
  | .account _ _ => sd_ei_ok _ _
  | .str _ _ => sd_ei_ok _ _
  | .number _ _ => sd_ei_ok _ _
  | .ratio _ _ _ => by
      unfold evalExpr
      split
      · exact sd_ei_err rfl
      · exact sd_ei_ok _ _
  | .monetary _ a n => by
      unfold evalExpr
      sd_bind (sd_sh_evalExpr vars a)
      sd_bind (sd_sh_expectAsset _)
      sd_bind (sd_sh_evalExpr vars n)
      sd_bind (sd_sh_expectNumber _)
      exact sd_ei_ok _ _
  | .infix _ op l r => by
      unfold evalExpr
      split
      · exact sd_ei_panic _ _
      · exact sd_ei_of_eq_err (sd_sh_evalExpr vars l) ‹_›
      · sd_bind (sd_sh_evalExpr vars r)
        sd_bind (sd_sh_expectMonetary _)
        split
        · exact sd_ei_ok _ _
        · exact sd_ei_err rfl
      · sd_bind (sd_sh_evalExpr vars r)
        sd_bind (sd_sh_expectNumber _)
        exact sd_ei_ok _ _
      · exact sd_ei_err rfl

theorem sd_sh_evalAs {α : Type} (vars : Vars) (e : Expr) {expect : Value → Outcome α}
    (he : ∀ v, sd_NoShape (expect v)) : sd_NoShape (evalAs vars e expect) :=
  sd_ei_bind (sd_sh_evalExpr vars e) fun v _ => he v

theorem sd_sh_evalMonetaryOfAsset (vars : Vars) (e : Expr) (asset : String) :
    sd_NoShape (evalAs vars e (expectMonetaryOfAsset asset)) :=
  sd_sh_evalAs vars e fun v => sd_ei_expectMonetaryOfAsset sd_dyn_shape (sd_sh_expectMonetary v) asset

theorem sd_sh_evalExprs (vars : Vars) : ∀ (es : List Expr), sd_NoShape (evalExprs vars es)
  | [] => sd_ei_ok _ _
  | e :: es => by
      unfold evalExprs
      exact sd_ei_bind (sd_sh_evalExpr vars e) fun v _ =>
        sd_ei_bind (sd_sh_evalExprs vars es) fun vs _ => sd_ei_ok _ _

theorem sd_sh_evalAllotItems (vars : Vars) : ∀ (items : List AllotVal),
    sd_NoShape (evalAllotItems vars items)
  | [] => sd_ei_ok _ _
  | .nil :: _ => sd_ei_panic _ _
  | .remaining _ :: rest => by
      unfold evalAllotItems
      exact sd_ei_bind (sd_sh_evalAllotItems vars rest) fun _ _ => sd_ei_ok _ _
  | .portion e :: rest => by
      unfold evalAllotItems
      exact sd_ei_bind (sd_sh_evalAs vars e sd_sh_expectPortion) fun _ _ =>
        sd_ei_bind (sd_sh_evalAllotItems vars rest) fun _ _ => sd_ei_ok _ _

theorem sd_sh_trySendingToAccount (env : Env) (addr : Expr) (amount : Int)
    (od : Option Int) (snd : Senders) : sd_NoShape (trySendingToAccount env addr amount od snd) :=
  sd_ei_trySendingToAccount (sd_sh_evalAs env.vars addr sd_sh_expectAccount) amount od snd

mutual
  theorem sd_sh_trySendingUpTo (env : Env) : (src : Source) → (amount : Int) →
      (snd : Senders) → sd_NoShape (trySendingUpTo env src amount snd)
    | .nil, _, _ => by simp only [trySendingUpTo]; exact sd_ei_panic _ _
    | .account e, amount, snd => by
        simp only [trySendingUpTo]
        exact sd_sh_trySendingToAccount env e amount _ snd
    | .overdraft _ addr none, amount, snd => by
        simp only [trySendingUpTo]
        exact sd_sh_trySendingToAccount env addr amount _ snd
    | .overdraft _ addr (some b), amount, snd => by
        simp only [trySendingUpTo]
        sd_bind (sd_sh_evalMonetaryOfAsset env.vars b env.asset)
        exact sd_sh_trySendingToAccount env addr amount _ snd
    | .inorder _ srcs, amount, snd => by
        simp only [trySendingUpTo]
        sd_bind (sd_sh_sendInorder env srcs amount snd)
        exact sd_ei_ok _ _
    | .allotment _ items, amount, snd => by
        simp only [trySendingUpTo]
        sd_bind (sd_ei_makeAllotment sd_dyn_shape (sd_sh_evalAllotItems env.vars _) amount)
        sd_bind (sd_sh_sendAllotItems env items _ snd)
        exact sd_ei_ok _ _
    | .capped _ cap src, amount, snd => by
        simp only [trySendingUpTo]
        sd_bind (sd_sh_evalMonetaryOfAsset env.vars cap env.asset)
        exact sd_sh_trySendingUpTo env src _ snd

  theorem sd_sh_sendInorder (env : Env) : (srcs : List Source) → (left : Int) →
      (snd : Senders) → sd_NoShape (sendInorder env srcs left snd)
    | [], _, _ => by simp only [sendInorder]; exact sd_ei_ok _ _
    | s :: ss, left, snd => by
        simp only [sendInorder]
        sd_bind (sd_sh_trySendingUpTo env s left snd)
        exact sd_sh_sendInorder env ss _ _

  theorem sd_sh_sendAllotItems (env : Env) : (items : List SrcItem) →
      (parts : List Int) → (snd : Senders) → sd_NoShape (sendAllotItems env items parts snd)
    | [], _, _ => by simp only [sendAllotItems]; exact sd_ei_ok _ _
    | _ :: _, [], _ => by simp only [sendAllotItems]; exact sd_ei_panic _ _
    | (.mk _ _ src) :: rest, p :: ps, snd => by
        simp only [sendAllotItems]
        sd_bind (sd_sh_trySendingUpTo env src p snd)
        split
        · exact sd_sh_sendAllotItems env rest ps _
        · exact sd_ei_err rfl
end

mutual
  theorem sd_sh_receiveFrom (env : Env) : (dst : Dest) → (amount : Int) →
      (rcv : Receivers) → sd_NoShape (receiveFrom env dst amount rcv)
    | .nil, _, _ => by simp only [receiveFrom]; exact sd_ei_panic _ _
    | .account e, amount, rcv => by
        simp only [receiveFrom]
        sd_bind (sd_sh_evalAs env.vars e sd_sh_expectAccount)
        exact sd_ei_ok _ _
    | .allotment _ items, amount, rcv => by
        simp only [receiveFrom]
        sd_bind (sd_ei_makeAllotment sd_dyn_shape (sd_sh_evalAllotItems env.vars _) amount)
        exact sd_sh_receiveAllotItems env items _ rcv
    | .inorder _ clauses remaining, amount, rcv => by
        simp only [receiveFrom]
        sd_bind (sd_sh_receiveClauses env clauses amount rcv)
        split
        · exact sd_ei_ok _ _
        · exact sd_sh_receiveKoD env remaining _ _

  theorem sd_sh_receiveKoD (env : Env) : (k : KoD) → (amount : Int) →
      (rcv : Receivers) → sd_NoShape (receiveKoD env k amount rcv)
    | .nil, _, _ => by simp only [receiveKoD]; exact sd_ei_panic _ _
    | .kept _, _, _ => by simp only [receiveKoD]; exact sd_ei_ok _ _
    | .to d, amount, rcv => by
        simp only [receiveKoD]
        exact sd_sh_receiveFrom env d amount rcv

  theorem sd_sh_receiveClauses (env : Env) : (clauses : List DestClause) →
      (left : Int) → (rcv : Receivers) → sd_NoShape (receiveClauses env clauses left rcv)
    | [], _, _ => by simp only [receiveClauses]; exact sd_ei_ok _ _
    | (.mk _ cap kd) :: rest, left, rcv => by
        simp only [receiveClauses]
        sd_bind (sd_sh_evalMonetaryOfAsset env.vars cap env.asset)
        split
        · exact sd_ei_ok _ _
        · split
          · exact sd_sh_receiveClauses env rest left rcv
          · sd_bind (sd_sh_receiveKoD env kd _ rcv)
            exact sd_sh_receiveClauses env rest _ _

  theorem sd_sh_receiveAllotItems (env : Env) : (items : List DestItem) →
      (parts : List Int) → (rcv : Receivers) → sd_NoShape (receiveAllotItems env items parts rcv)
    | [], _, _ => by simp only [receiveAllotItems]; exact sd_ei_ok _ _
    | _ :: _, [], _ => by simp only [receiveAllotItems]; exact sd_ei_panic _ _
    | (.mk _ _ kd) :: rest, p :: ps, rcv => by
        simp only [receiveAllotItems]
        sd_bind (sd_sh_receiveKoD env kd p rcv)
        exact sd_sh_receiveAllotItems env rest ps _
end

theorem sd_sh_sentOk (vars : Vars) :
    (sv : SentValue) → sd_SentOk (fun e => e.isSendAllShape = false) vars sv
  | .nil => trivial
  | .all _ a => sd_sh_evalAs vars a sd_sh_expectAsset
  | .lit _ m => sd_sh_evalAs vars m sd_sh_expectMonetary

mutual
  theorem sd_sh_findBalancesQueries (vars : Vars) (asset : String) : (src : Source) →
      (p : BalanceQuery) → sd_NoShape (findBalancesQueries vars asset src p)
    | .nil, _ => by simp only [findBalancesQueries]; exact sd_ei_panic _ _
    | .account e, p => by
        simp only [findBalancesQueries]
        sd_bind (sd_sh_evalAs vars e sd_sh_expectAccount)
        exact sd_ei_ok _ _
    | .overdraft _ _ none, _ => by simp only [findBalancesQueries]; exact sd_ei_ok _ _
    | .overdraft _ addr (some _), p => by
        simp only [findBalancesQueries]
        sd_bind (sd_sh_evalAs vars addr sd_sh_expectAccount)
        exact sd_ei_ok _ _
    | .inorder _ srcs, p => by
        simp only [findBalancesQueries]
        exact sd_sh_findQueriesList vars asset srcs p
    | .capped _ _ src, p => by
        simp only [findBalancesQueries]
        exact sd_sh_findBalancesQueries vars asset src p
    | .allotment _ items, p => by
        simp only [findBalancesQueries]
        exact sd_sh_findQueriesItems vars asset items p

  theorem sd_sh_findQueriesList (vars : Vars) (asset : String) : (srcs : List Source) →
      (p : BalanceQuery) → sd_NoShape (findQueriesList vars asset srcs p)
    | [], _ => by simp only [findQueriesList]; exact sd_ei_ok _ _
    | s :: ss, p => by
        simp only [findQueriesList]
        sd_bind (sd_sh_findBalancesQueries vars asset s p)
        exact sd_sh_findQueriesList vars asset ss _

  theorem sd_sh_findQueriesItems (vars : Vars) (asset : String) : (items : List SrcItem) →
      (p : BalanceQuery) → sd_NoShape (findQueriesItems vars asset items p)
    | [], _ => by simp only [findQueriesItems]; exact sd_ei_ok _ _
    | (.mk _ _ src) :: rest, p => by
        simp only [findQueriesItems]
        sd_bind (sd_sh_findBalancesQueries vars asset src p)
        exact sd_sh_findQueriesItems vars asset rest _
end

theorem sd_sh_findBalancesQueriesInStatement (vars : Vars) : (st : Statement) →
    (p : BalanceQuery) → sd_NoShape (findBalancesQueriesInStatement vars st p)
  | .nil, _ => sd_ei_panic _ _
  | .fnCallNil, _ => sd_ei_ok _ _
  | .fnCall _, _ => sd_ei_ok _ _
  | .save _ sv amount, p => by
      simp only [findBalancesQueriesInStatement]
      sd_bind (sd_ei_evaluateSentAmt (sd_sh_sentOk vars sv))
      sd_bind (sd_sh_evalAs vars amount sd_sh_expectAccount)
      exact sd_ei_ok _ _
  | .send _ sv src _, p => by
      simp only [findBalancesQueriesInStatement]
      sd_bind (sd_ei_evaluateSentAmt (sd_sh_sentOk vars sv))
      exact sd_sh_findBalancesQueries vars _ src p

theorem sd_sh_preload (vars : Vars) : (ss : List Statement) →
    (p : BalanceQuery) → sd_NoShape (preload vars ss p)
  | [], _ => sd_ei_ok _ _
  | s :: ss, p => by
      unfold preload
      sd_bind (sd_sh_findBalancesQueriesInStatement vars s p)
      exact sd_sh_preload vars ss _

theorem sd_sh_parseArgs2 {α β : Type} (args : List Value) {e1 : Value → Outcome α}
    {e2 : Value → Outcome β} (h1 : ∀ v, sd_NoShape (e1 v)) (h2 : ∀ v, sd_NoShape (e2 v)) :
    sd_NoShape (parseArgs2 args e1 e2) := by
  unfold parseArgs2
  split
  · exact sd_ei_bind (h1 _) fun _ _ => sd_ei_bind (h2 _) fun _ _ => sd_ei_ok _ _
  · exact sd_ei_err rfl

theorem sd_sh_parseArgs3 {α β γ : Type} (args : List Value) {e1 : Value → Outcome α}
    {e2 : Value → Outcome β} {e3 : Value → Outcome γ} (h1 : ∀ v, sd_NoShape (e1 v))
    (h2 : ∀ v, sd_NoShape (e2 v)) (h3 : ∀ v, sd_NoShape (e3 v)) :
    sd_NoShape (parseArgs3 args e1 e2 e3) := by
  unfold parseArgs3
  split
  · exact sd_ei_bind (h1 _) fun _ _ => sd_ei_bind (h2 _) fun _ _ =>
      sd_ei_bind (h3 _) fun _ _ => sd_ei_ok _ _
  · exact sd_ei_err rfl

theorem sd_sh_parseVars (store : Store) (flag : Bool) (rawVars : List (String × String)) :
    (ds : List VarDecl) → (vars : Vars) → (q : QState) →
    sd_NoShape (parseVars store flag rawVars ds vars q)
  | [], _, _ => sd_ei_ok _ _
  | d :: rest, vars, q => by
      unfold parseVars
      split
      · exact sd_ei_panic _ _
      · exact sd_ei_panic _ _
      · split
        · split
          · exact sd_ei_err rfl
          · sd_bind (sd_ei_parseVar sd_dyn_shape (fun _ => rfl) _)
            exact sd_sh_parseVars store flag rawVars rest _ _
        · sd_bind (sd_ei_handleOrigin sd_dyn_shape (sd_sh_evalExprs vars _)
            (fun _ vs _ => sd_sh_parseArgs2 vs sd_sh_expectAccount sd_sh_expectString)
            (fun _ vs _ => sd_sh_parseArgs2 vs sd_sh_expectAccount sd_sh_expectAsset)
            (sd_ei_parseVar sd_dyn_shape fun _ => rfl) fun _ _ _ => rfl)
          exact sd_sh_parseVars store flag rawVars rest _ _

/-! ## send-all shape errors and a silent check -/

def sd_ShapeP (e : Err) : Prop :=
  e ≠ .invalidAllotmentInSendAll ∧ ∀ n, e = .invalidUnboundedInSendAll n → n = WORLD

theorem sd_shapeP_of_noShape {e : Err} (h : e.isSendAllShape = false) : sd_ShapeP e :=
  ⟨(by rintro rfl; cases h), (by rintro n rfl; cases h)⟩

theorem sd_dyn_shapeP : sd_Dyn sd_ShapeP := fun _ _ => sd_shapeP_of_noShape

theorem sd_sp_of_sh {α : Type} {o : Outcome α} (h : sd_NoShape o) : sd_ErrIn sd_ShapeP o :=
  sd_ei_mono h fun _ => sd_shapeP_of_noShape

theorem sd_sp_sendAllToAccount (env : Env) (addr : Expr) (o : Int) (snd : Senders) :
    sd_ErrIn sd_ShapeP (sendAllToAccount env addr (some o) snd) := by
  unfold sendAllToAccount
  sd_bind (sd_sp_of_sh (sd_sh_evalAs env.vars addr sd_sh_expectAccount))
  dsimp only
  split
  · rename_i hw
    exact sd_ei_err ⟨by simp, fun n hn => Err.invalidUnboundedInSendAll.inj hn ▸ hw⟩
  · exact sd_ei_ok _ _

theorem sd_overdraftHead_unbounded {addr : Expr}
    (hu : st.unboundedSend = true) (h : checkOverdraftHead st addr none = .ok st') :
    st'.diags ≠ [] := by
  unfold checkOverdraftHead at h
  extract_lets isWorld st1 st2 at h
  have hu2 : st2.unboundedSend = true := by
    have f1 : st1.unboundedSend = st.unboundedSend := by
      unfold st1
      split
      · split <;> rfl
      · rfl
    have f2 : st2.unboundedSend = st1.unboundedSend := by
      unfold st2
      split <;> rfl
    rw [f2, f1, hu]
  simp only [hu2, Option.isNone_none, true_or, and_self, if_true] at h
  split at h
  · exact Outcome.ok.inj h ▸ (by simp [CState.push])
  · cases h

mutual
  theorem sd_silent_sendAll (env : Env) : ∀ (src : Source) (st st' : CState),
      checkSource st src = .ok st' → st'.diags = [] → st.unboundedSend = true →
      ∀ snd, sd_ErrIn sd_ShapeP (sendAll env src snd)
    | .nil, _, _, _, _, _ => by
        intro snd; simp only [sendAll]; exact sd_ei_panic _ _
    | .account e, _, _, _, _, _ => by
        intro snd; simp only [sendAll]; exact sd_sp_sendAllToAccount env e 0 snd
    | .overdraft r addr none, st, st', h, hs, hu => by
        obtain ⟨st1, st2, st3, f1, h2, h3, h4⟩ := sd_checkSource_overdraft h
        cases h4
        exact (sd_overdraftHead_unbounded (f1.2.trans hu) h2
          ((sd_checkExpression_frame addr h3).silent hs)).elim
    | .overdraft r addr (some b), _, _, _, _, _ => by
        intro snd
        simp only [sendAll]
        sd_bind (sd_sp_of_sh (sd_sh_evalMonetaryOfAsset env.vars b env.asset))
        exact sd_sp_sendAllToAccount env addr _ snd
    | .inorder r srcs, st, st', h, hs, hu => by
        obtain ⟨st1, f1, h2⟩ := sd_checkSource_inorder h
        intro snd
        simp only [sendAll]
        exact sd_silent_sendAllList env srcs st1 st' h2 hs (f1.2.trans hu) 0 snd
    | .capped r cap src, _, _, _, _, _ => by
        intro snd
        simp only [sendAll]
        sd_bind (sd_sp_of_sh (sd_sh_evalMonetaryOfAsset env.vars cap env.asset))
        exact sd_sp_of_sh (sd_sh_trySendingUpTo env src _ snd)
    | .allotment r items, st, st', h, hs, hu => by
        obtain ⟨st1, st2, acc, f1, h2, f3, hne⟩ := sd_checkSource_allotment h
        exact (hne hu ((sd_Frame.of_an (an_checkSrcItems_frame items h2)).silent (f3.silent hs))).elim

  theorem sd_silent_sendAllList (env : Env) : ∀ (srcs : List Source) (st st' : CState),
      checkSourceList st srcs = .ok st' → st'.diags = [] → st.unboundedSend = true →
      ∀ total snd, sd_ErrIn sd_ShapeP (sendAllList env srcs total snd)
    | [], _, _, _, _, _ => by
        intro total snd; simp only [sendAllList]; exact sd_ei_ok _ _
    | s :: ss, st, st', h, hs, hu => by
        obtain ⟨st1, h1, h2⟩ := sd_checkSourceList_cons h
        intro total snd
        simp only [sendAllList]
        have f1 := sd_Frame.of_grows (an_checkSource_frame ..) h1
        sd_bind (sd_silent_sendAll env s st st1 h1
          ((sd_Frame.of_grows (an_checkSourceList_frame ..) h2).silent hs) hu snd)
        exact sd_silent_sendAllList env ss st1 st' h2 hs (f1.2.trans hu) _ _
end

theorem sd_silent_statement (vars : Vars) (s : Statement) (st st' : CState)
    (h : checkStatement st s = .ok st') (hs : st'.diags = []) :
    ∀ rst, sd_ErrIn sd_ShapeP (runStatement vars rst s) := by
  intro rst
  cases s with
  | nil => exact sd_ei_panic _ _
  | fnCallNil => exact sd_ei_panic _ _
  | save r sv amount =>
    exact sd_sp_of_sh (sd_ei_runSaveStatement sd_dyn_shape (sd_sh_sentOk vars sv)
      (sd_sh_evalAs vars amount sd_sh_expectAccount))
  | fnCall fn =>
    exact sd_sp_of_sh (sd_ei_runFnCall (sd_sh_evalExprs vars fn.args)
      (fun _ vs _ => sd_sh_parseArgs2 vs sd_sh_expectString fun v => sd_ei_ok _ v)
      (fun _ vs _ => sd_sh_parseArgs3 vs sd_sh_expectAccount sd_sh_expectString fun v => sd_ei_ok _ v)
      fun _ _ => rfl)
  | send r sv src dst =>
    obtain ⟨st0, st1, st2, -, hu, h1, h2, h3⟩ := sd_checkStatement_send h
    simp only [runStatement]
    refine sd_ei_runSendStatement sd_dyn_shapeP (?_ : sd_SentOk sd_ShapeP vars sv)
      (fun hall cache asset => sd_silent_sendAll _ src st1 st2 h2
        ((sd_Frame.of_grows (an_checkDestination_frame ..) h3).silent hs)
        ((sd_Frame.of_grows (an_checkSentValue_frame ..) h1).2.trans (hu hall)) _)
      (fun _ _ _ => sd_sp_of_sh (sd_sh_trySendingUpTo _ src _ _))
      fun _ _ _ => sd_sp_of_sh (sd_sh_receiveFrom _ dst _ _)
    cases sv with
    | nil => trivial
    | all r a => exact sd_sp_of_sh (sd_sh_evalAs vars a sd_sh_expectAsset)
    | lit r m => exact sd_sp_of_sh (sd_sh_evalAs vars m sd_sh_expectMonetary)

theorem sd_silent_statements (vars : Vars) : ∀ (ss : List Statement) (st st' : CState),
    checkStatements st ss = .ok st' → st'.diags = [] →
    ∀ rst, sd_ErrIn sd_ShapeP (runStatements vars ss rst)
  | [], _, _, _, _ => by
      intro rst; simp only [runStatements]; exact sd_ei_ok _ _
  | s :: ss, st, st', h, hs => by
      obtain ⟨st1, h1, h2⟩ := sd_checkStatements_cons h
      obtain ⟨l, hl⟩ := (sd_checkStatements_ext ss h2).diags
      intro rst
      simp only [runStatements]
      sd_bind (sd_silent_statement vars s _ st1 h1 (List.append_eq_nil_iff.mp (hs ▸ hl).symm).1 _)
      sd_bind (sd_silent_statements vars ss st1 st' h2 hs _)
      exact sd_ei_ok _ _

theorem sd_silent_check (prog : Program) (st : CState)
    (hchk : checkProgram [] prog = .ok st) (hsilent : st.diags = [])
    (rawVars : List (String × String)) (store : Store) (flag : Bool) :
    sd_ErrIn sd_ShapeP (RunProgram prog rawVars store flag) := by
  obtain ⟨st1, st2, h1, h2, rfl⟩ := sd_checkProgram_cases hchk
  rw [sd_foldl_unused_diags] at hsilent
  unfold RunProgram
  sd_bind (sd_sp_of_sh (sd_sh_parseVars store flag rawVars prog.vars [] ⟨[], [], 0, []⟩))
  sd_bind (sd_sp_of_sh (sd_sh_preload _ prog.stmts _))
  split
  · exact sd_ei_err (sd_dyn_shapeP _ rfl rfl)
  · sd_bind (sd_silent_statements _ prog.stmts st1 st2 h2 (List.append_eq_nil_iff.mp hsilent).1 _)
    exact sd_ei_ok _ _

end NS
