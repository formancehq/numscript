/-
  The lexer `lex` (Model/Lex.lean).

  `candidates cs` is taken apart into the three skipped rules, the keyword and punctuation literals and the nine
  patterns (`lx_candidates_eq`); `bestOf` selects the first entry of maximal non-zero length.  No rule matches across
  a line feed, so a token lies on one line and `advance` only moves the column over it; with that the loop keeps the
  invariant behind Properties/C15lex.lean (`lx_loop_inv`).
-/
import Spec.Render
import Proofs.ShowLemmas

namespace NS

/-! ### the rules in the order of the grammar -/

def lx_kwKinds : List TK :=
  [.kwVars, .kwMax, .kwSource, .kwDestination, .kwSend, .kwFrom, .kwUp, .kwTo, .kwRemaining, .kwAllowing,
   .kwUnbounded, .kwOverdraft, .kwKept, .kwSave]

def lx_keywords : List (TK × List Char) := lx_kwKinds.map fun k => (k, (fixedText k).getD [])

def lx_puncts : List (TK × Char) :=
  [(.lparen, '('), (.rparen, ')'), (.lbracket, '['), (.rbracket, ']'), (.lbrace, '{'), (.rbrace, '}'),
   (.comma, ','), (.eq, '='), (.star, '*'), (.minus, '-')]

def lx_skips (cs : List Char) : List (Option TK × Nat) :=
  [(none, mWs cs), (none, mBlockComment cs), (none, mLineComment cs)]

def lx_literals (cs : List Char) : List (Option TK × Nat) :=
  lx_keywords.map (fun p => (some p.1, mLiteral p.2 cs)) ++ lx_puncts.map (fun p => (some p.1, mLiteral [p.2] cs))

def lx_patterns (cs : List Char) : List (Option TK × Nat) :=
  [(some .ratio, mRatio cs), (some .percent, mPercent cs), (some .string, mString cs), (some .ident, mIdent cs),
   (some .number, mNumber cs), (some .varName, mVarName cs), (some .account, mAccount cs),
   (some .asset, mAsset cs), (some .plus, mLiteral ['+'] cs)]

theorem lx_candidates_eq (cs : List Char) : candidates cs = lx_skips cs ++ (lx_literals cs ++ lx_patterns cs) := by
  simp only [candidates, lx_skips, lx_literals, lx_patterns, lx_keywords, lx_kwKinds, lx_puncts, List.map_cons,
    List.map_nil, fixedText, Option.getD_some, List.cons_append, List.nil_append]

theorem lx_forall_literals (cs : List Char) (P : Option TK × Nat → Prop)
    (hk : ∀ p ∈ lx_keywords, P (some p.1, mLiteral p.2 cs)) (hp : ∀ p ∈ lx_puncts, P (some p.1, mLiteral [p.2] cs)) :
    ∀ y ∈ lx_literals cs, P y := by
  intro y hy
  rcases List.mem_append.mp hy with hy | hy
  · obtain ⟨p, hp', rfl⟩ := List.mem_map.mp hy
    exact hk p hp'
  · obtain ⟨p, hp', rfl⟩ := List.mem_map.mp hy
    exact hp p hp'

theorem lx_kw_texts : lx_keywords.map Prod.snd = keywordTexts := by
  simp only [lx_keywords, lx_kwKinds, keywordTexts, List.map_cons, List.map_nil, fixedText, Option.getD_some]

theorem lx_kw_fixed (p : TK × List Char) (hp : p ∈ lx_keywords) : fixedText p.1 = some p.2 := by
  obtain ⟨k, hk, rfl⟩ := List.mem_map.mp hp
  have hs : ∀ k ∈ lx_kwKinds, (fixedText k).isSome = true := by decide
  cases h : fixedText k with
  | none => have := hs k hk; rw [h] at this; cases this
  | some v => rfl

theorem lx_punct_fixed : ∀ p ∈ lx_puncts, fixedText p.1 = some [p.2] := by decide

def lx_identLike : List Char → Bool
  | c :: t => isLowerChar c && t.all isIdentTail
  | [] => false

/-- in one statement: one evaluation of the table -/
theorem lx_kw_table :
    (∀ p ∈ lx_keywords, lx_identLike p.2 = true ∧ ∀ x ∈ p.2, isWsChar x = false) ∧
    ∀ p ∈ lx_keywords, ∀ q ∈ lx_keywords, p.2 = q.2 → p = q := by
  simp only [lx_keywords, lx_kwKinds, List.map_cons, List.map_nil, fixedText, Option.getD_some, String.reduceToList]
  decide

theorem lx_kw_shape (p : TK × List Char) (hp : p ∈ lx_keywords) :
    ∃ c t, p.2 = c :: t ∧ isLowerChar c = true ∧ t.all isIdentTail = true := by
  have hl := (lx_kw_table.1 p hp).1
  cases h : p.2 with
  | nil => rw [h] at hl; cases hl
  | cons c t => rw [h] at hl; exact ⟨c, t, rfl, (Bool.and_eq_true _ _).mp hl⟩

theorem lx_kw_noWs (p : TK × List Char) (hp : p ∈ lx_keywords) : ∀ x ∈ p.2, isWsChar x = false :=
  (lx_kw_table.1 p hp).2

theorem lx_kw_inj (p q : TK × List Char) (hp : p ∈ lx_keywords) (hq : q ∈ lx_keywords) (h : p.2 = q.2) : p = q :=
  lx_kw_table.2 p hp q hq h

theorem lx_mem_candidates (cs : List Char) (k : TK) (n : Nat) (h : (some k, n) ∈ candidates cs) :
    (some k, n) ∈ lx_literals cs ∨ (some k, n) ∈ lx_patterns cs := by
  rw [lx_candidates_eq] at h
  rcases List.mem_append.mp h with h | h
  · simp only [lx_skips, List.mem_cons, Prod.mk.injEq, reduceCtorEq, false_and, List.not_mem_nil, or_self] at h
  · exact List.mem_append.mp h

/-! ### `mLiteral` -/

theorem lx_mLiteral_prefix (kw cs : List Char) (h : kw <+: cs) : mLiteral kw cs = kw.length :=
  if_pos (List.isPrefixOf_iff_prefix.mpr h)

theorem lx_mLiteral_self (txt rest : List Char) : mLiteral txt (txt ++ rest) = txt.length :=
  lx_mLiteral_prefix _ _ (List.prefix_append txt rest)

theorem lx_mLiteral_take (cs : List Char) (n : Nat) (hn : n ≤ cs.length) : mLiteral (cs.take n) cs = n := by
  rw [lx_mLiteral_prefix _ _ (List.take_prefix _ _), List.length_take, Nat.min_eq_left hn]

theorem lx_mLiteral_le (kw cs : List Char) : mLiteral kw cs ≤ kw.length := by
  unfold mLiteral
  split
  · exact Nat.le_refl _
  · exact Nat.zero_le _

theorem lx_mLiteral_zero (k : Char) (kw : List Char) (c : Char) (t : List Char) (h : k ≠ c) :
    mLiteral (k :: kw) (c :: t) = 0 := by
  simp [mLiteral, List.isPrefixOf, h]

theorem lx_mLiteral_pos (kw cs : List Char) (h : mLiteral kw cs ≠ 0) : cs.take (mLiteral kw cs) = kw := by
  unfold mLiteral at h ⊢
  split
  · rename_i hp
    exact (List.prefix_iff_eq_take.mp (List.isPrefixOf_iff_prefix.mp hp)).symm
  · rename_i hp
    exact absurd (if_neg hp) h

/-! ### newline-free prefixes

  what a rule matches is a sum of spans over classes without the line feed and of single characters other than it;
  `lx_clean_add` takes the sum apart and the equations of the `match`es say what stands at each place -/

theorem lx_clean_add (cs : List Char) (a b : Nat) :
    '\n' ∉ cs.take (a + b) ↔ '\n' ∉ cs.take a ∧ '\n' ∉ (cs.drop a).take b := by
  rw [List.take_add, List.mem_append, not_or]

theorem lx_take_zero_clean (cs : List Char) : '\n' ∉ cs.take 0 := by simp

theorem lx_span_clean (p : Char → Bool) (hp : p '\n' = false) (cs : List Char) :
    '\n' ∉ cs.take (spanLen p cs) := by
  induction cs with
  | nil => simp [spanLen]
  | cons c t ih =>
    unfold spanLen
    split
    · rename_i hc
      have : '\n' ≠ c := by rintro rfl; rw [hp] at hc; cases hc
      simp [this, ih]
    · simp

theorem lx_take_one_clean (c : Char) (t : List Char) (hc : c ≠ '\n') : '\n' ∉ (c :: t).take 1 := by
  simp [hc.symm]

theorem lx_mLiteral_clean (kw : List Char) (hkw : '\n' ∉ kw) (cs : List Char) :
    '\n' ∉ cs.take (mLiteral kw cs) := by
  by_cases h : mLiteral kw cs = 0
  · rw [h]; exact List.not_mem_nil
  · rwa [lx_mLiteral_pos kw cs h]

def lx_sp (l : List Char) : Nat := match l with | ' ' :: _ => 1 | _ => 0

theorem lx_sp_clean (l : List Char) : '\n' ∉ l.take (lx_sp l) := by
  unfold lx_sp
  split <;> simp

theorem lx_mRatio_eq (cs : List Char) : mRatio cs =
  if spanLen isDigit cs = 0 then 0 else
    match (cs.drop (spanLen isDigit cs)).drop (lx_sp (cs.drop (spanLen isDigit cs))) with
    | '/' :: r3 => if spanLen isDigit (r3.drop (lx_sp r3)) = 0 then 0 else
        spanLen isDigit cs + lx_sp (cs.drop (spanLen isDigit cs)) + 1 + lx_sp r3
          + spanLen isDigit (r3.drop (lx_sp r3))
    | _ => 0 := rfl

theorem lx_ratio_clean (cs : List Char) : '\n' ∉ cs.take (mRatio cs) := by
  rw [lx_mRatio_eq]
  split
  · simp
  · split
    · rename_i r3 heq
      split
      · simp
      · simp [lx_clean_add, ← List.drop_drop, heq, lx_span_clean isDigit rfl, lx_sp_clean]
    · simp

theorem lx_percent_clean (cs : List Char) : '\n' ∉ cs.take (mPercent cs) := by
  unfold mPercent
  simp only
  split
  · simp
  · split
    · rename_i r heq
      simp [lx_clean_add, heq, lx_span_clean isDigit rfl]
    · rename_i r heq
      split
      · simp
      · split
        · rename_i r' heq'
          simp [lx_clean_add, ← List.drop_drop, heq, heq', lx_span_clean isDigit rfl]
        · simp
    · simp

theorem lx_strBody_step (c : Char) (t : List Char) (hq : c ≠ '"') (hnl : isNlChar c = false)
    (hb : c = '\\' → ∀ r, t ≠ '"' :: r) : strBody (c :: t) = (strBody t).map (· + 1) := by
  rw [strBody.eq_def]
  split
  · rename_i heq; cases heq
  · rename_i heq; exact absurd (List.cons.inj heq).1 hq
  · rename_i heq; exact absurd (List.cons.inj heq).2 (hb (List.cons.inj heq).1 _)
  · rename_i heq
    obtain ⟨rfl, rfl⟩ := List.cons.inj heq
    rw [if_neg (by rw [hnl]; exact Bool.false_ne_true)]

theorem lx_strBody_clean (cs : List Char) (n : Nat) (h : strBody cs = some n) :
    '\n' ∉ cs.take n := by
  fun_induction strBody cs generalizing n with
  | case1 => cases h
  | case2 => cases h; simp
  | case3 rest m hm ih => cases h; simpa using ih m hm
  | case4 rest hm => cases h; simp
  | case5 c rest _ _ hc => cases h
  | case6 c rest _ _ hc ih =>
    simp at h
    obtain ⟨m, hm, rfl⟩ := h
    have : '\n' ≠ c := by rintro rfl; simp [isNlChar] at hc
    simp [this, ih m hm]

theorem lx_string_clean (cs : List Char) : '\n' ∉ cs.take (mString cs) := by
  unfold mString
  split
  · split
    · rename_i n hn
      simp [lx_strBody_clean _ n hn]
    · simp
  · simp

theorem lx_ident_clean (cs : List Char) : '\n' ∉ cs.take (mIdent cs) := by
  unfold mIdent
  split
  · split
    · rename_i c t hc
      have : '\n' ≠ c := by rintro rfl; cases hc
      simp [Nat.add_comm 1, this, lx_span_clean isIdentTail rfl]
    · simp
  · simp

theorem lx_number_clean (cs : List Char) : '\n' ∉ cs.take (mNumber cs) := by
  unfold mNumber
  split
  · simp only
    split
    · simp
    · simp [lx_span_clean isDigit rfl]
  · exact lx_span_clean _ rfl _

theorem lx_varName_clean (cs : List Char) : '\n' ∉ cs.take (mVarName cs) := by
  unfold mVarName
  split
  · split
    · rename_i c t hc
      have : '\n' ≠ c := by rintro rfl; cases hc
      simp [Nat.add_comm 2, this, lx_span_clean isVarTail rfl]
    · simp
  · simp

theorem lx_acctTail_clean (fuel : Nat) (cs : List Char) : '\n' ∉ cs.take (acctTail fuel cs) := by
  induction fuel generalizing cs with
  | zero => unfold acctTail; simp
  | succ f ih =>
    unfold acctTail
    split
    · rename_i f' t heq
      simp only
      split
      · simp
      · refine (lx_clean_add _ _ _).mpr ⟨(lx_clean_add _ _ _).mpr ⟨lx_take_one_clean _ _ (by decide), ?_⟩, ?_⟩
        · simpa using lx_span_clean _ (by decide) t
        · rw [← List.drop_drop]
          simp only [List.drop_succ_cons, List.drop_zero]
          have : f' = f := by omega
          subst this
          exact ih _
    · simp

theorem lx_account_clean (cs : List Char) : '\n' ∉ cs.take (mAccount cs) := by
  unfold mAccount
  split
  · rename_i t
    simp only
    split
    · simp
    · refine (lx_clean_add _ _ _).mpr ⟨(lx_clean_add _ _ _).mpr ⟨lx_take_one_clean _ _ (by decide), ?_⟩, ?_⟩
      · simpa using lx_span_clean _ (by decide) t
      · rw [← List.drop_drop]
        simp only [List.drop_succ_cons, List.drop_zero]
        exact lx_acctTail_clean _ _
  · simp

theorem lx_asset_clean (cs : List Char) : '\n' ∉ cs.take (mAsset cs) :=
  lx_span_clean _ (by decide) _

/-! ### `bestOf` -/

theorem lx_bestOf_none (l : List (Option TK × Nat)) (h : bestOf l = none) : ∀ y ∈ l, y.2 = 0 := by
  induction l with
  | nil => nofun
  | cons x rest ih =>
    unfold bestOf at h
    split at h
    · split at h <;> cases h
    · rename_i hb
      split at h
      · cases h
      · rename_i hn
        exact List.forall_mem_cons.mpr ⟨Decidable.not_not.mp hn, ih hb⟩

theorem lx_bestOf_split (l : List (Option TK × Nat)) (k : Option TK) (n : Nat) (h : bestOf l = some (k, n)) :
    n ≠ 0 ∧ ∃ a b, l = a ++ (k, n) :: b ∧ (∀ y ∈ a, y.2 < n) ∧ ∀ y ∈ b, y.2 ≤ n := by
  induction l generalizing k n with
  | nil => cases h
  | cons x rest ih =>
    unfold bestOf at h
    split at h
    · rename_i k' n' hb
      obtain ⟨hn', a, b, rfl, ha, hb'⟩ := ih k' n' hb
      split at h
      · rename_i hc
        cases h
        refine ⟨hc.2, [], _, rfl, nofun, fun y hy => Nat.le_trans ?_ hc.1⟩
        rcases List.mem_append.mp hy with hy | hy
        · exact Nat.le_of_lt (ha y hy)
        · rcases List.mem_cons.mp hy with rfl | hy
          · exact Nat.le_refl _
          · exact hb' y hy
      · rename_i hc
        cases h
        exact ⟨hn', x :: a, b, rfl, List.forall_mem_cons.mpr ⟨by omega, ha⟩, hb'⟩
    · rename_i hb
      split at h
      · rename_i hn
        cases h
        exact ⟨hn, [], rest, rfl, nofun, fun y hy => lx_bestOf_none rest hb y hy ▸ Nat.zero_le _⟩
      · cases h

theorem lx_bestOf_mem (l : List (Option TK × Nat)) (k : Option TK) (n : Nat)
    (h : bestOf l = some (k, n)) : (k, n) ∈ l ∧ n ≠ 0 := by
  obtain ⟨hn, a, b, rfl, -, -⟩ := lx_bestOf_split l k n h
  exact ⟨List.mem_append_right _ (List.mem_cons_self ..), hn⟩

theorem gr_bestOf_le (l : List (Option TK × Nat)) (k : Option TK) (n : Nat)
    (h : bestOf l = some (k, n)) : ∀ y ∈ l, y.2 ≤ n := by
  obtain ⟨-, a, b, rfl, ha, hb⟩ := lx_bestOf_split l k n h
  intro y hy
  rcases List.mem_append.mp hy with hy | hy
  · exact Nat.le_of_lt (ha y hy)
  · rcases List.mem_cons.mp hy with rfl | hy
    · exact Nat.le_refl _
    · exact hb y hy

theorem lx_bestOf_first (l : List (Option TK × Nat)) (k : Option TK) (n : Nat)
    (h : bestOf l = some (k, n)) : ∀ x ∈ l.takeWhile (fun y => decide (y.1 ≠ k)), x.2 < n := by
  obtain ⟨-, a, b, rfl, ha, -⟩ := lx_bestOf_split l k n h
  intro x hx
  rw [List.takeWhile_append] at hx
  split at hx
  · simp only [List.takeWhile_cons, ne_eq, not_true_eq_false, decide_false, Bool.false_eq_true, if_false,
      List.append_nil] at hx
    exact ha x hx
  · exact ha x ((List.takeWhile_sublist _).subset hx)

theorem lx_candidates_clean (cs : List Char) (kind : TK) (n : Nat)
    (h : (some kind, n) ∈ candidates cs) : '\n' ∉ cs.take n := by
  rcases lx_mem_candidates cs kind n h with h | h
  · refine lx_forall_literals cs (fun y => '\n' ∉ cs.take y.2) (fun p hp => ?_) (fun p hp => ?_) _ h
    · exact lx_mLiteral_clean _ (fun hm => absurd (lx_kw_noWs p hp _ hm) (by decide)) _
    · have hc : ∀ p ∈ lx_puncts, '\n' ∉ [p.2] := by decide
      exact lx_mLiteral_clean _ (hc p hp) _
  · simp only [lx_patterns, List.mem_cons, Prod.mk.injEq, List.not_mem_nil, or_false] at h
    rcases h with ⟨-, rfl⟩ | ⟨-, rfl⟩ | ⟨-, rfl⟩ | ⟨-, rfl⟩ | ⟨-, rfl⟩ | ⟨-, rfl⟩ | ⟨-, rfl⟩ | ⟨-, rfl⟩ | ⟨-, rfl⟩
    · exact lx_ratio_clean _
    · exact lx_percent_clean _
    · exact lx_string_clean _
    · exact lx_ident_clean _
    · exact lx_number_clean _
    · exact lx_varName_clean _
    · exact lx_account_clean _
    · exact lx_asset_clean _
    · exact lx_mLiteral_clean _ (by decide) _

theorem lx_best_clean (cs : List Char) (kind : TK) (n : Nat)
    (h : bestOf (candidates cs) = some (some kind, n)) : n ≠ 0 ∧ '\n' ∉ cs.take n :=
  ⟨(lx_bestOf_mem _ _ _ h).2, lx_candidates_clean cs kind n (lx_bestOf_mem _ _ _ h).1⟩

/-! ### positions -/

theorem lx_advance_clean (txt : List Char) (l c : Nat) (h : '\n' ∉ txt) :
    advance l c txt = (l, c + txt.length) := by
  induction txt generalizing c with
  | nil => simp [advance]
  | cons a t ih =>
    simp only [List.mem_cons, not_or] at h
    unfold advance
    rw [if_neg (fun e => h.1 e.symm), ih _ h.2]
    simp; omega

theorem lx_advance_append (l c : Nat) (a b : List Char) :
    advance l c (a ++ b) = advance (advance l c a).1 (advance l c a).2 b := by
  induction a generalizing l c with
  | nil => simp [advance]
  | cons x t ih =>
    simp only [List.cons_append]
    by_cases hx : x = '\n'
    · simp only [advance, if_pos hx]; exact ih _ _
    · simp only [advance, if_neg hx]; exact ih _ _

theorem lx_advance_line (l c : Nat) (t : List Char) :
    advance (l + 1) c t = ((advance l c t).1 + 1, (advance l c t).2) := by
  induction t generalizing l c with
  | nil => simp [advance]
  | cons x t ih =>
    unfold advance
    split
    · exact ih _ _
    · exact ih _ _

theorem lx_gtEq_refl (p : Pos) : p.gtEq p = true := (sh_gtEq_iff p p).2 (Or.inr ⟨rfl, Nat.le_refl _⟩)

theorem lx_gtEq_trans (p q r : Pos) (h1 : p.gtEq q = true) (h2 : q.gtEq r = true) : p.gtEq r = true := by
  rw [sh_gtEq_iff] at *
  omega

theorem lx_advance_ge (txt : List Char) (l c : Nat) :
    (Pos.mk (advance l c txt).1 (advance l c txt).2).gtEq ⟨l, c⟩ = true := by
  induction txt generalizing l c with
  | nil => exact lx_gtEq_refl _
  | cons a t ih =>
    unfold advance
    split
    · exact lx_gtEq_trans _ ⟨l + 1, 0⟩ _ (ih _ _) ((sh_gtEq_iff _ _).2 (Or.inl (Nat.lt_succ_self l)))
    · exact lx_gtEq_trans _ ⟨l, c + 1⟩ _ (ih _ _) ((sh_gtEq_iff _ _).2 (Or.inr ⟨rfl, Nat.le_succ c⟩))

theorem lx_dropToPos_step (src : List Char) (l c : Nat) (p : Char) (rest : List Char)
    (h : dropToPos src l c = p :: rest) :
    (p = '\n' → dropToPos src (l + 1) 0 = rest) ∧ (p ≠ '\n' → dropToPos src l (c + 1) = rest) := by
  fun_induction dropToPos src l c
  case case1 => subst h; constructor <;> intro hp <;> simp [dropToPos, hp]
  case case2 => simp at h
  case case3 => simp at h
  case case4 hc ih => simpa only [dropToPos, if_neg hc] using ih h
  case case5 ih => simpa only [dropToPos, if_true] using ih h
  case case6 hc ih => simpa only [dropToPos, if_neg hc] using ih h

theorem lx_dropToPos_advance (src pre cs : List Char) (l c : Nat)
    (h : dropToPos src l c = pre ++ cs) :
    dropToPos src (advance l c pre).1 (advance l c pre).2 = cs := by
  induction pre generalizing l c with
  | nil => simpa [advance] using h
  | cons a t ih =>
    have hs := lx_dropToPos_step src l c a (t ++ cs) (by simpa using h)
    unfold advance
    split
    · rename_i ha; exact ih _ _ (hs.1 ha)
    · rename_i ha; exact ih _ _ (hs.2 ha)

/-! ### unfolding `lexLoop` (its generated equations time out on the 36-way `candidates`) -/

theorem lx_lexLoop_zero (cs : List Char) (l c : Nat) : lexLoop 0 cs l c = none := rfl
theorem lx_lexLoop_nil (f l c : Nat) : lexLoop (f + 1) [] l c = some [] := rfl

attribute [local irreducible] bestOf candidates in
theorem lx_lexLoop_cons (f l c : Nat) (a : Char) (cs : List Char) : lexLoop (f + 1) (a :: cs) l c =
      match bestOf (candidates (a :: cs)) with
      | none => none
      | some (k, n) =>
          match lexLoop f ((a :: cs).drop n) (advance l c ((a :: cs).take n)).1 (advance l c ((a :: cs).take n)).2 with
          | none => none
          | some toks =>
              match k with
              | none => some toks
              | some kind => some ({ kind := kind, text := (a :: cs).take n, line := l, col := c } :: toks) := by
  rfl

theorem lx_lexLoop_induct (P : List Char → Nat → Nat → List Tok → Prop) (nil : ∀ l c, P [] l c [])
    (skip : ∀ a cs n l c ts, bestOf (candidates (a :: cs)) = some (none, n) →
      P ((a :: cs).drop n) (advance l c ((a :: cs).take n)).1 (advance l c ((a :: cs).take n)).2 ts → P (a :: cs) l c ts)
    (tok : ∀ a cs kind n l c ts, bestOf (candidates (a :: cs)) = some (some kind, n) →
      P ((a :: cs).drop n) (advance l c ((a :: cs).take n)).1 (advance l c ((a :: cs).take n)).2 ts →
      P (a :: cs) l c ({ kind := kind, text := (a :: cs).take n, line := l, col := c } :: ts))
    (fuel : Nat) : ∀ cs l c ts, lexLoop fuel cs l c = some ts → P cs l c ts := by
  induction fuel with
  | zero => intro cs l c ts h; rw [lx_lexLoop_zero] at h; cases h
  | succ f ih =>
    intro cs l c ts h
    cases cs with
    | nil => rw [lx_lexLoop_nil] at h; cases h; exact nil l c
    | cons a cs =>
      rw [lx_lexLoop_cons] at h
      split at h
      · cases h
      · rename_i k n hb
        split at h
        · cases h
        · rename_i toks hrec
          cases k <;> cases h
          · exact skip a cs n l c _ hb (ih _ _ _ _ hrec)
          · exact tok a cs _ n l c _ hb (ih _ _ _ _ hrec)

/-! ### the loop invariant -/

theorem lx_take_ne_nil (a : Char) (cs : List Char) (n : Nat) (hn : n ≠ 0) : (a :: cs).take n ≠ [] := by
  cases n with
  | zero => exact absurd rfl hn
  | succ m => exact List.cons_ne_nil _ _

theorem lx_loop_inv (src : List Char) (fuel : Nat) (cs : List Char) (line col : Nat) (ts : List Tok)
    (h : lexLoop fuel cs line col = some ts) (hd : dropToPos src line col = cs) :
    (∀ t ∈ ts, t.Located src) ∧ (∀ t ∈ ts, t.startPos.gtEq ⟨line, col⟩ = true) ∧ TokensSorted ts := by
  revert hd
  refine lx_lexLoop_induct (fun cs line col ts => dropToPos src line col = cs →
    (∀ t ∈ ts, t.Located src) ∧ (∀ t ∈ ts, t.startPos.gtEq ⟨line, col⟩ = true) ∧ TokensSorted ts)
    (fun _ _ _ => ⟨nofun, nofun, trivial⟩) ?_ ?_ fuel cs line col ts h
  · intro a cs n line col toks _ ih hd
    obtain ⟨iL, iG, iS⟩ := ih (lx_dropToPos_advance src _ _ line col (by rw [hd, List.take_append_drop]))
    exact ⟨iL, fun t ht => lx_gtEq_trans _ _ _ (iG t ht) (lx_advance_ge _ _ _), iS⟩
  · intro a cs kind n line col toks hb ih hd
    obtain ⟨iL, iG, iS⟩ := ih (lx_dropToPos_advance src _ _ line col (by rw [hd, List.take_append_drop]))
    have iG' : ∀ t ∈ toks, t.startPos.gtEq ⟨line, col⟩ = true := fun t ht =>
      lx_gtEq_trans _ _ _ (iG t ht) (lx_advance_ge _ _ _)
    obtain ⟨hn, hclean⟩ := lx_best_clean _ _ _ hb
    rw [lx_advance_clean _ line col hclean] at iG
    refine ⟨List.forall_mem_cons.mpr ⟨⟨?_, hclean⟩, iL⟩, List.forall_mem_cons.mpr ⟨lx_gtEq_refl _, iG'⟩, ?_⟩
    · simp only [hd]
      rw [List.length_take]
      exact List.take_eq_take_min.symm
    · have hne := lx_take_ne_nil a cs n hn
      cases toks with
      | nil => exact hne
      | cons b rest => exact ⟨hne, iG b (by simp), iS⟩

/-! ### fuel and lengths -/

theorem lx_drop_le (c : Char) (cs : List Char) (n : Nat) (hn : n ≠ 0) :
    ((c :: cs).drop n).length ≤ cs.length := by
  simp only [List.length_drop, List.length_cons]; omega

theorem lx_fuel (f1 : Nat) : ∀ (f2 : Nat) (cs : List Char) (line col : Nat),
    cs.length < f1 → cs.length < f2 → lexLoop f1 cs line col = lexLoop f2 cs line col := by
  induction f1 with
  | zero => intro f2 cs line col h1; omega
  | succ f1 ih =>
    intro f2 cs line col h1 h2
    cases f2 with
    | zero => omega
    | succ f2 =>
      cases cs with
      | nil => rw [lx_lexLoop_nil, lx_lexLoop_nil]
      | cons c cs =>
        rw [lx_lexLoop_cons, lx_lexLoop_cons]
        generalize hb : bestOf (candidates (c :: cs)) = b
        cases b with
        | none => rfl
        | some kn =>
          obtain ⟨k, n⟩ := kn
          have hle := lx_drop_le c cs n (lx_bestOf_mem _ _ _ hb).2
          simp only [List.length_cons] at h1 h2
          simp only
          rw [ih f2 _ _ _ (by omega) (by omega)]

/-! ### single tokens -/

/-- a token is the text of the selected candidate at some position of the input -/
def lx_TokFrom (t : Tok) : Prop :=
  ∃ cs n, bestOf (candidates cs) = some (some t.kind, n) ∧ t.text = cs.take n

theorem lx_lex_toks (cs : List Char) (ts : List Tok) (h : lex cs = some ts) : ∀ t ∈ ts, lx_TokFrom t :=
  lx_lexLoop_induct (fun _ _ _ ts => ∀ t ∈ ts, lx_TokFrom t) (fun _ _ => nofun) (fun _ _ _ _ _ _ _ ih => ih)
    (fun a cs _ n _ _ _ hb ih => List.forall_mem_cons.mpr ⟨⟨a :: cs, n, hb, rfl⟩, ih⟩) _ cs 0 0 ts h

theorem lx_spanLen_le (p : Char → Bool) (cs : List Char) : spanLen p cs ≤ cs.length := by
  induction cs with
  | nil => simp [spanLen]
  | cons c t ih =>
    unfold spanLen
    split
    · simp only [List.length_cons]; omega
    · exact Nat.zero_le _

theorem lx_mIdent_le (cs : List Char) : mIdent cs ≤ cs.length := by
  unfold mIdent
  split
  · rename_i c t
    split
    · have := lx_spanLen_le isIdentTail t
      simp only [List.length_cons]; omega
    · exact Nat.zero_le _
  · exact Nat.zero_le _

theorem lx_cand_ident (cs : List Char) (n : Nat) (h : (some TK.ident, n) ∈ candidates cs) :
    n = mIdent cs := by
  simpa [candidates] using h

theorem lx_kw_before (cs : List Char) (kw : List Char) (hkw : kw ∈ keywordTexts) :
    ∃ kk, (some kk, mLiteral kw cs) ∈ (candidates cs).takeWhile (fun y => decide (y.1 ≠ some TK.ident)) := by
  rw [← lx_kw_texts] at hkw
  obtain ⟨p, hp, rfl⟩ := List.mem_map.mp hkw
  have hk : ∀ p ∈ lx_keywords, p.1 ≠ TK.ident := by decide
  have hc : ∀ p ∈ lx_puncts, p.1 ≠ TK.ident := by decide
  have hpre : ∀ y ∈ lx_skips cs ++ lx_literals cs, decide (y.1 ≠ some TK.ident) = true := by
    intro y hy
    rcases List.mem_append.mp hy with hy | hy
    · simp only [lx_skips, List.mem_cons, List.not_mem_nil, or_false] at hy
      rcases hy with rfl | rfl | rfl <;> rfl
    · exact lx_forall_literals cs (fun y => decide (y.1 ≠ some TK.ident) = true)
        (fun p hp => decide_eq_true fun e => hk p hp (Option.some.inj e))
        (fun p hp => decide_eq_true fun e => hc p hp (Option.some.inj e)) y hy
  rw [lx_candidates_eq, ← List.append_assoc, List.takeWhile_append_of_pos hpre]
  exact ⟨p.1, List.mem_append_left _ (List.mem_append_right _ (List.mem_append_left _ (List.mem_map.mpr ⟨p, hp, rfl⟩)))⟩

theorem lx_ident_not_keyword (t : Tok) (ht : lx_TokFrom t) (hk : t.kind = .ident) :
    t.text ∉ keywordTexts := by
  obtain ⟨cs, n, hb, htxt⟩ := ht
  rw [hk] at hb
  have hn := lx_cand_ident cs n (lx_bestOf_mem _ _ _ hb).1
  intro hmem
  obtain ⟨kk, hkk⟩ := lx_kw_before cs _ hmem
  have hlt : mLiteral t.text cs < n := lx_bestOf_first _ _ _ hb _ hkk
  rw [htxt, lx_mLiteral_take cs n (hn ▸ lx_mIdent_le cs)] at hlt
  exact Nat.lt_irrefl n hlt

theorem lx_cand_fixed (cs : List Char) (k : TK) (txt : List Char) (n : Nat)
    (hf : fixedText k = some txt) (h : (some k, n) ∈ candidates cs) : n = mLiteral txt cs := by
  rcases lx_mem_candidates cs k n h with h | h
  · refine lx_forall_literals cs (fun y => y.1 = some k → y.2 = mLiteral txt cs) (fun p hp e => ?_) (fun p hp e => ?_)
      _ h rfl
    · obtain rfl : p.1 = k := Option.some.inj e
      obtain rfl : p.2 = txt := Option.some.inj ((lx_kw_fixed p hp).symm.trans hf)
      rfl
    · obtain rfl : p.1 = k := Option.some.inj e
      obtain rfl : [p.2] = txt := Option.some.inj ((lx_punct_fixed p hp).symm.trans hf)
      rfl
  · simp only [lx_patterns, List.mem_cons, Prod.mk.injEq, Option.some.injEq, List.not_mem_nil, or_false] at h
    rcases h with ⟨rfl, -⟩ | ⟨rfl, -⟩ | ⟨rfl, -⟩ | ⟨rfl, -⟩ | ⟨rfl, -⟩ | ⟨rfl, -⟩ | ⟨rfl, -⟩ | ⟨rfl, -⟩ | ⟨rfl, rfl⟩
    all_goals cases hf
    rfl

theorem lx_fixed_text (t : Tok) (ht : lx_TokFrom t) (txt : List Char) (hf : fixedText t.kind = some txt) :
    t.text = txt := by
  obtain ⟨cs, n, hb, htxt⟩ := ht
  obtain ⟨hmem, hn⟩ := lx_bestOf_mem _ _ _ hb
  obtain rfl := lx_cand_fixed cs t.kind txt n hf hmem
  exact htxt.trans (lx_mLiteral_pos txt cs hn)

end NS
