/-
  Two facts about the parser that do not involve positions.  What a writable tree satisfies: no nil
  child, allotment clauses of the parser's shapes, `+`/`-` nested to the left all follow from
  `Printable`.  Layout independence: on two token streams with the same kinds and texts every parser
  function fails on both or returns trees that differ in ranges only (`parse_layout_independent`,
  Properties/C15tree.lean).
-/
import Spec.Unparse
import Proofs.ParserInv
import Proofs.ParserEquations

namespace NS

/-! ## What a writable tree satisfies -/

theorem pt_expr_printable : ∀ e : Expr, e.Printable → e.Complete ∧ e.LeftAssoc := by
  intro e
  induction e with
  | monetary r a b iha ihb =>
    intro h; exact ⟨⟨(iha h.1).1, (ihb h.2).1⟩, (iha h.1).2, (ihb h.2).2⟩
  | «infix» r op l r' ihl ihr =>
    intro h; exact ⟨⟨(ihl h.1).1, (ihr h.2.1).1⟩, h.2.2, (ihl h.1).2, (ihr h.2.1).2⟩
  | nil | monetaryNil => exact False.elim
  | _ => intro _; exact ⟨trivial, trivial⟩

theorem pt_exprs_printable : ∀ es : List Expr, ExprsPrintable es →
    ExprsComplete es ∧ ∀ e ∈ es, e.LeftAssoc
  | [], _ => ⟨trivial, nofun⟩
  | e :: es, h =>
      have he := pt_expr_printable e h.1
      have hes := pt_exprs_printable es h.2
      ⟨⟨he.1, hes.1⟩, List.forall_mem_cons.2 ⟨he.2, hes.2⟩⟩

theorem pt_allot_printable : ∀ a : AllotVal, a.Printable →
    a.Complete ∧ a.ShapeOk ∧ ∀ e ∈ a.exprs, e.LeftAssoc
  | .remaining _, _ => ⟨trivial, trivial, nofun⟩
  | .portion (.var _ _), _ | .portion (.ratio _ _ _), _ =>
      ⟨trivial, trivial, List.forall_mem_cons.2 ⟨trivial, nofun⟩⟩

mutual
theorem pt_source_printable : ∀ s : Source, s.Printable →
    s.Complete ∧ s.ShapeOk ∧ ∀ e ∈ s.exprs, e.LeftAssoc
  | .nil, h => h.elim
  | .account e, h =>
      have he := pt_expr_printable e h
      ⟨he.1, trivial, List.forall_mem_cons.2 ⟨he.2, nofun⟩⟩
  | .overdraft _ a none, h =>
      have ha := pt_expr_printable a h
      ⟨ha.1, trivial, List.forall_mem_cons.2 ⟨ha.2, nofun⟩⟩
  | .overdraft _ a (some b), h =>
      have ha := pt_expr_printable a h.1
      have hb := pt_expr_printable b h.2
      ⟨⟨ha.1, hb.1⟩, trivial, List.forall_mem_cons.2 ⟨ha.2, List.forall_mem_cons.2 ⟨hb.2, nofun⟩⟩⟩
  | .inorder _ ss, h => pt_sources_printable ss h
  | .capped _ c s, h =>
      have hc := pt_expr_printable c h.1
      have hs := pt_source_printable s h.2
      ⟨⟨hc.1, hs.1⟩, hs.2.1, List.forall_mem_cons.2 ⟨hc.2, hs.2.2⟩⟩
  | .allotment _ is, h => pt_srcItems_printable is h.2
theorem pt_sources_printable : ∀ ss : List Source, SourcesPrintable ss →
    SourcesComplete ss ∧ SourcesShapeOk ss ∧ ∀ e ∈ sourcesExprs ss, e.LeftAssoc
  | [], _ => ⟨trivial, trivial, nofun⟩
  | s :: ss, h =>
      have hs := pt_source_printable s h.1
      have hss := pt_sources_printable ss h.2
      ⟨⟨hs.1, hss.1⟩, ⟨hs.2.1, hss.2.1⟩, List.forall_mem_append.2 ⟨hs.2.2, hss.2.2⟩⟩
theorem pt_srcItems_printable : ∀ is : List SrcItem, SrcItemsPrintable is →
    SrcItemsComplete is ∧ SrcItemsShapeOk is ∧ ∀ e ∈ srcItemsExprs is, e.LeftAssoc
  | [], _ => ⟨trivial, trivial, nofun⟩
  | .mk _ a s :: is, h =>
      have ha := pt_allot_printable a h.1
      have hs := pt_source_printable s h.2.1
      have his := pt_srcItems_printable is h.2.2
      ⟨⟨ha.1, hs.1, his.1⟩, ⟨ha.2.1, hs.2.1, his.2.1⟩,
        List.forall_mem_append.2 ⟨List.forall_mem_append.2 ⟨ha.2.2, hs.2.2⟩, his.2.2⟩⟩
end

mutual
theorem pt_dest_printable : ∀ d : Dest, d.Printable →
    d.Complete ∧ d.ShapeOk ∧ ∀ e ∈ d.exprs, e.LeftAssoc
  | .nil, h => h.elim
  | .account e, h =>
      have he := pt_expr_printable e h
      ⟨he.1, trivial, List.forall_mem_cons.2 ⟨he.2, nofun⟩⟩
  | .inorder _ cs k, h =>
      have hc := pt_clauses_printable cs h.2.1
      have hk := pt_kod_printable k h.2.2
      ⟨⟨hc.1, hk.1⟩, ⟨hc.2.1, hk.2.1⟩, List.forall_mem_append.2 ⟨hc.2.2, hk.2.2⟩⟩
  | .allotment _ is, h => pt_dstItems_printable is h.2
theorem pt_kod_printable : ∀ k : KoD, k.Printable →
    k.Complete ∧ k.ShapeOk ∧ ∀ e ∈ k.exprs, e.LeftAssoc
  | .nil, h => h.elim
  | .kept _, _ => ⟨trivial, trivial, nofun⟩
  | .to d, h => pt_dest_printable d h
theorem pt_clauses_printable : ∀ cs : List DestClause, ClausesPrintable cs →
    ClausesComplete cs ∧ ClausesShapeOk cs ∧ ∀ e ∈ clausesExprs cs, e.LeftAssoc
  | [], _ => ⟨trivial, trivial, nofun⟩
  | .mk _ c k :: cs, h =>
      have hc := pt_expr_printable c h.1
      have hk := pt_kod_printable k h.2.1
      have hcs := pt_clauses_printable cs h.2.2
      ⟨⟨hc.1, hk.1, hcs.1⟩, ⟨hk.2.1, hcs.2.1⟩,
        List.forall_mem_cons.2 ⟨hc.2, List.forall_mem_append.2 ⟨hk.2.2, hcs.2.2⟩⟩⟩
theorem pt_dstItems_printable : ∀ is : List DestItem, DstItemsPrintable is →
    DstItemsComplete is ∧ DstItemsShapeOk is ∧ ∀ e ∈ dstItemsExprs is, e.LeftAssoc
  | [], _ => ⟨trivial, trivial, nofun⟩
  | .mk _ a k :: is, h =>
      have ha := pt_allot_printable a h.1
      have hk := pt_kod_printable k h.2.1
      have his := pt_dstItems_printable is h.2.2
      ⟨⟨ha.1, hk.1, his.1⟩, ⟨ha.2.1, hk.2.1, his.2.1⟩,
        List.forall_mem_append.2 ⟨List.forall_mem_append.2 ⟨ha.2.2, hk.2.2⟩, his.2.2⟩⟩
end

theorem pt_sentValue_printable : ∀ sv : SentValue, sv.Printable →
    sv.Complete ∧ ∀ e ∈ sv.exprs, e.LeftAssoc
  | .nil, h => h.elim
  | .lit _ e, h | .all _ e, h =>
      have he := pt_expr_printable e h
      ⟨he.1, List.forall_mem_cons.2 ⟨he.2, nofun⟩⟩

theorem pt_statement_printable : ∀ s : Statement, s.Printable →
    s.Complete ∧ s.ShapeOk ∧ ∀ e ∈ s.exprs, e.LeftAssoc
  | .nil, h | .fnCallNil, h => h.elim
  | .send _ sv src dst, h =>
      have hv := pt_sentValue_printable sv h.1
      have hs := pt_source_printable src h.2.1
      have hd := pt_dest_printable dst h.2.2
      ⟨⟨hv.1, hs.1, hd.1⟩, ⟨hs.2.1, hd.2.1⟩,
        List.forall_mem_append.2 ⟨List.forall_mem_append.2 ⟨hv.2, hs.2.2⟩, hd.2.2⟩⟩
  | .save _ sv e, h =>
      have hv := pt_sentValue_printable sv h.1
      have he := pt_expr_printable e h.2
      ⟨⟨hv.1, he.1⟩, trivial, List.forall_mem_append.2 ⟨hv.2, List.forall_mem_cons.2 ⟨he.2, nofun⟩⟩⟩
  | .fnCall c, h =>
      have hc := pt_exprs_printable c.args h
      ⟨hc.1, trivial, hc.2⟩

theorem pt_statements_printable : ∀ ss : List Statement, (∀ s ∈ ss, s.Printable) →
    StatementsComplete ss ∧ (∀ s ∈ ss, s.ShapeOk) ∧ ∀ e ∈ ss.flatMap Statement.exprs, e.LeftAssoc
  | [], _ => ⟨trivial, nofun, nofun⟩
  | s :: ss, h =>
      have hs := pt_statement_printable s (List.forall_mem_cons.1 h).1
      have hss := pt_statements_printable ss (List.forall_mem_cons.1 h).2
      ⟨⟨hs.1, hss.1⟩, List.forall_mem_cons.2 ⟨hs.2.1, hss.2.1⟩,
        List.forall_mem_append.2 ⟨hs.2.2, hss.2.2⟩⟩

theorem pt_varDecl_printable (d : VarDecl) (h : d.Printable) :
    d.Complete ∧ ∀ e ∈ d.exprs, e.LeftAssoc := by
  obtain ⟨r, name, type, origin⟩ := d
  obtain ⟨h1, h2, h3⟩ := h
  cases origin with
  | none => exact ⟨⟨h2, h1, nofun⟩, nofun⟩
  | some c =>
    have hc := pt_exprs_printable c.args (h3 c rfl)
    exact ⟨⟨h2, h1, fun fn hfn => by cases hfn; exact hc.1⟩, hc.2⟩

theorem pt_varDecls_printable : ∀ ds : List VarDecl, (∀ d ∈ ds, d.Printable) →
    VarDeclsComplete ds ∧ ∀ e ∈ ds.flatMap VarDecl.exprs, e.LeftAssoc
  | [], _ => ⟨trivial, nofun⟩
  | d :: ds, h =>
      have hd := pt_varDecl_printable d (List.forall_mem_cons.1 h).1
      have hds := pt_varDecls_printable ds (List.forall_mem_cons.1 h).2
      ⟨⟨hd.1, hds.1⟩, List.forall_mem_append.2 ⟨hd.2, hds.2⟩⟩

theorem pt_program_printable (p : Program) (h : p.Printable) :
    p.Complete ∧ (∀ s ∈ p.stmts, s.ShapeOk) ∧ ∀ e ∈ p.exprs, e.LeftAssoc :=
  have hd := pt_varDecls_printable p.vars h.1
  have hs := pt_statements_printable p.stmts h.2
  ⟨⟨hd.1, hs.1⟩, hs.2.1, List.forall_mem_append.2 ⟨hd.2, hs.2.2⟩⟩

/-! ## Argument lists: each argument behind its comma, as `pArgsTail` reads them -/

def pt_argsTailToks : List Expr → List Shape
  | [] => []
  | e :: es => kw .comma "," :: e.toks ++ pt_argsTailToks es

theorem pt_exprsToks_cons : ∀ (e : Expr) (es : List Expr),
    exprsToks (e :: es) = e.toks ++ pt_argsTailToks es
  | e, [] => by simp [exprsToks, pt_argsTailToks]
  | e, e2 :: es => by
      simp only [exprsToks, pt_argsTailToks, pt_exprsToks_cons e2 es, List.cons_append]

/-! ## Layout independence -/

def pt_Sim (ts ts' : List Tok) : Prop := ts.map Tok.shape = ts'.map Tok.shape

theorem pt_Sim_cases {ts ts' : List Tok} (h : pt_Sim ts ts') :
    (ts = [] ∧ ts' = []) ∨
    ∃ t r t' r', ts = t :: r ∧ ts' = t' :: r' ∧ t'.kind = t.kind ∧ t'.text = t.text ∧ pt_Sim r r' := by
  cases ts with
  | nil =>
    cases ts' with
    | nil => exact Or.inl ⟨rfl, rfl⟩
    | cons t' r' => cases h
  | cons t r =>
    cases ts' with
    | nil => cases h
    | cons t' r' =>
      simp only [pt_Sim, List.map_cons, List.cons.injEq, Tok.shape, Prod.mk.injEq] at h
      exact Or.inr ⟨t, r, t', r', rfl, rfl, h.1.1.symm, h.1.2.symm, h.2⟩

theorem pt_Sim_cons {t t' : Tok} {r r' : List Tok} (hk : t'.kind = t.kind) (ht : t'.text = t.text)
    (h : pt_Sim r r') : pt_Sim (t :: r) (t' :: r') := by
  simp only [pt_Sim, List.map_cons, Tok.shape, hk, ht]
  exact congrArg _ h

theorem pt_Sim.length_eq {ts ts' : List Tok} (h : pt_Sim ts ts') : ts.length = ts'.length := by
  simpa only [List.length_map] using congrArg List.length h

theorem pt_Sim.append_right {ts ts' : List Tok} (h : pt_Sim ts ts') (r : List Tok) :
    pt_Sim (ts ++ r) (ts' ++ r) := by
  unfold pt_Sim at h ⊢
  rw [List.map_append, List.map_append, h]

theorem pt_allotNext_sim {ts ts' : List Tok} (h : pt_Sim ts ts') :
    pt_allotNext ts' = pt_allotNext ts := by
  rcases pt_Sim_cases h with ⟨rfl, rfl⟩ | ⟨t, r, t', r', rfl, rfl, hk, -, -⟩
  · rfl
  · simp only [pt_allotNext, hk]

theorem pt_allotAhead_sim {ts ts' : List Tok} (h : pt_Sim ts ts') :
    pt_allotAhead ts' = pt_allotAhead ts := by
  rcases pt_Sim_cases h with ⟨rfl, rfl⟩ | ⟨t, r, t', r', rfl, rfl, hk, -, hr⟩
  · rfl
  · rcases pt_Sim_cases hr with ⟨rfl, rfl⟩ | ⟨u, r, u', r', rfl, rfl, hku, -, -⟩
    · rfl
    · simp only [pt_allotAhead, hk, hku]

theorem _root_.Option.Rel.bind {α β : Type} {R : α → α → Prop} {S : β → β → Prop} {x x' : Option α}
    {k k' : α → Option β} (h : Option.Rel R x x') (hk : ∀ a a', R a a' → Option.Rel S (k a) (k' a')) :
    Option.Rel S (x.bind k) (x'.bind k') := by
  cases h with
  | none => exact .none
  | some h => exact hk _ _ h

theorem _root_.Option.Rel.inv {α : Type} {R : α → α → Prop} {x x' : Option α} (h : Option.Rel R x x') :
    (x = .none ∧ x' = .none) ∨ ∃ a a', x = .some a ∧ x' = .some a' ∧ R a a' := by
  cases h with
  | none => exact .inl ⟨rfl, rfl⟩
  | some h => exact .inr ⟨_, _, rfl, rfl, h⟩

theorem _root_.Option.Rel.map_eq {α β : Type} {g : α → β} {x x' : Option α}
    (h : Option.Rel (fun a a' => g a = g a') x x') : x.map g = x'.map g := by
  cases h with
  | none => rfl
  | some h => exact congrArg Option.some h

theorem _root_.Option.Rel.ite {α : Type} {R : α → α → Prop} {c : Prop} [Decidable c]
    {a a' b b' : Option α} (ht : c → Option.Rel R a a') (he : ¬c → Option.Rel R b b') :
    Option.Rel R (if c then a else b) (if c then a' else b') := by
  split
  · exact ht ‹_›
  · exact he ‹_›

/-- the results of a parser agree up to ranges; the stop token only feeds ranges -/
structure pt_Res {α β : Type} (sk : α → β) (p q : α × Tok × List Tok) : Prop where
  skel : sk p.1 = sk q.1
  rest : pt_Sim p.2.2 q.2.2

structure pt_ResL {α β : Type} (sk : α → β) (p q : α × List Tok) : Prop where
  skel : sk p.1 = sk q.1
  rest : pt_Sim p.2 q.2

theorem _root_.Option.Rel.bindRes {α β γ : Type} {sk : α → β} {S : γ → γ → Prop} {x x' : PR α}
    {k k' : α × Tok × List Tok → Option γ} (h : Option.Rel (pt_Res sk) x x')
    (hk : ∀ a s r a' s' r', sk a = sk a' → pt_Sim r r' → Option.Rel S (k (a, s, r)) (k' (a', s', r'))) :
    Option.Rel S (x.bind k) (x'.bind k') :=
  h.bind fun ⟨a, s, r⟩ ⟨a', s', r'⟩ ⟨ha, hr⟩ => hk a s r a' s' r' ha hr

theorem _root_.Option.Rel.bindResL {α β γ : Type} {sk : α → β} {S : γ → γ → Prop}
    {x x' : Option (α × List Tok)} {k k' : α × List Tok → Option γ} (h : Option.Rel (pt_ResL sk) x x')
    (hk : ∀ a r a' r', sk a = sk a' → pt_Sim r r' → Option.Rel S (k (a, r)) (k' (a', r'))) :
    Option.Rel S (x.bind k) (x'.bind k') :=
  h.bind fun ⟨a, r⟩ ⟨a', r'⟩ ⟨ha, hr⟩ => hk a r a' r' ha hr

theorem pt_expect_sim (k : TK) {ts ts' : List Tok} (h : pt_Sim ts ts') :
    Option.Rel (fun p p' => pt_Sim p.2 p'.2) (expect k ts) (expect k ts') := by
  rcases pt_Sim_cases h with ⟨rfl, rfl⟩ | ⟨t, r, t', r', rfl, rfl, hk, _, hr⟩
  · exact .none
  · rw [pt_expect_eq, pt_expect_eq, hk]
    exact .ite (fun _ => .some hr) (fun _ => .none)

theorem pt_expect_bind {γ : Type} {S : γ → γ → Prop} (kd : TK) {ts ts' : List Tok} (h : pt_Sim ts ts')
    {k k' : Tok × List Tok → Option γ}
    (hk : ∀ t r t' r', pt_Sim r r' → Option.Rel S (k (t, r)) (k' (t', r'))) :
    Option.Rel S ((expect kd ts).bind k) ((expect kd ts').bind k') :=
  (pt_expect_sim kd h).bind fun ⟨t, r⟩ ⟨t', r'⟩ hr => hk t r t' r' hr

theorem pt_portionExpr_sim {t t' : Tok} (hk : t'.kind = t.kind) (ht : t'.text = t.text) :
    Option.Rel (fun e e' => e.skel = e'.skel) (portionExpr t) (portionExpr t') := by
  simp only [portionExpr, hk, ht]
  refine .ite (fun _ => ?_) fun _ => .ite (fun _ => ?_) fun _ => .none
  · cases ratioLiteral t.text with
    | none => exact .none
    | some _ => exact .some rfl
  · cases percentLiteral t.text with
    | none => exact .none
    | some _ => exact .some rfl

theorem pt_expr_sim : ∀ f : Nat,
    (∀ ts ts', pt_Sim ts ts' → Option.Rel (pt_Res Expr.skel) (pExpr f ts) (pExpr f ts')) ∧
    (∀ ts ts', pt_Sim ts ts' → Option.Rel (pt_Res Expr.skel) (pPrimary f ts) (pPrimary f ts')) ∧
    (∀ first first' l l' stop stop' ts ts', l.skel = l'.skel → pt_Sim ts ts' →
      Option.Rel (pt_Res Expr.skel) (pInfixTail f first l stop ts) (pInfixTail f first' l' stop' ts')) := by
  intro f
  induction f with
  | zero => exact ⟨fun _ _ _ => .none, fun _ _ _ => .none, fun _ _ _ _ _ _ _ _ _ _ => .none⟩
  | succ f ih =>
    obtain ⟨ihE, ihP, ihT⟩ := ih
    refine ⟨?_, ?_, ?_⟩
    · intro ts ts' h
      rcases pt_Sim_cases h with ⟨rfl, rfl⟩ | ⟨t, r, t', r', rfl, rfl, -, -, -⟩
      · exact .none
      · rw [pt_expr_eq, pt_expr_eq]
        refine (ihP _ _ h).bindRes fun e s r1 e' s' r1' he hr1 => ?_
        exact ihT _ _ _ _ _ _ _ _ he hr1
    · intro ts ts' h
      rcases pt_Sim_cases h with ⟨rfl, rfl⟩ | ⟨t, r, t', r', rfl, rfl, hk, ht, hr⟩
      · exact .none
      · have hport : Option.Rel (pt_Res Expr.skel) ((portionExpr t).bind fun e => some (e, t, r))
            ((portionExpr t').bind fun e => some (e, t', r')) :=
          (pt_portionExpr_sim hk ht).bind fun _ _ he => .some ⟨he, hr⟩
        rw [pt_primary_eq, pt_primary_eq, hk, ht]
        cases t.kind with
        | varName | asset | string | account => exact .some ⟨rfl, hr⟩
        | number =>
          cases numberTokenValue t.text with
          | none => exact .none
          | some _ => exact .some ⟨rfl, hr⟩
        | ratio | percent => exact hport
        | lbracket =>
          refine (ihE _ _ hr).bindRes fun a _ r1 a' _ r1' ha hr1 => ?_
          refine (ihE _ _ hr1).bindRes fun b _ r2 b' _ r2' hb hr2 => ?_
          refine pt_expect_bind .rbracket hr2 fun rb r3 rb' r3' hr3 => ?_
          exact .some ⟨by simp only [Expr.skel, ha, hb], hr3⟩
        | _ => exact .none
    · intro first first' l l' stop stop' ts ts' hl h
      rcases pt_Sim_cases h with ⟨rfl, rfl⟩ | ⟨op, r, op', r', rfl, rfl, hk, -, hr⟩
      · rw [pt_infixTail_nil, pt_infixTail_nil]; exact .some ⟨hl, h⟩
      · rw [pt_infixTail_eq, pt_infixTail_eq, hk]
        refine .ite (fun _ => ?_) fun _ => .some ⟨hl, h⟩
        refine (ihP _ _ hr).bindRes fun a s r1 a' s' r1' ha hr1 => ?_
        exact ihT _ _ _ _ _ _ _ _ (by simp only [Expr.skel, hl, ha]) hr1

theorem pt_allotOfTok_sim {t t' : Tok} (hk : t'.kind = t.kind) (ht : t'.text = t.text) :
    Option.Rel (fun a a' => a.skel = a'.skel) (allotOfTok t) (allotOfTok t') := by
  simp only [allotOfTok, hk, ht, Option.map_eq_bind]
  refine .ite (fun _ => .some rfl) fun _ => .ite (fun _ => .some rfl) fun _ => ?_
  exact (pt_portionExpr_sim hk ht).bind fun _ _ he => .some (congrArg AllotVal.portion he)

theorem pt_source_sim : ∀ f : Nat,
    (∀ ts ts', pt_Sim ts ts' → Option.Rel (pt_Res Source.skel) (pSource f ts) (pSource f ts')) ∧
    (∀ lb lb' ts ts', pt_Sim ts ts' →
      Option.Rel (pt_Res Source.skel) (pSrcInorder f lb ts) (pSrcInorder f lb' ts')) ∧
    (∀ ts ts', pt_Sim ts ts' → Option.Rel (pt_ResL sourcesSkel) (pSources f ts) (pSources f ts')) ∧
    (∀ ts ts', pt_Sim ts ts' → Option.Rel (pt_ResL srcItemsSkel) (pSrcItems f ts) (pSrcItems f ts')) := by
  intro f
  induction f with
  | zero =>
    exact ⟨fun _ _ _ => .none, fun _ _ _ _ _ => .none, fun _ _ _ => .none, fun _ _ _ => .none⟩
  | succ f ih =>
    obtain ⟨ihS, ihI, ihSs, ihIt⟩ := ih
    have hE := (pt_expr_sim f).1
    refine ⟨?_, ?_, ?_, ?_⟩
    · intro ts ts' h
      rcases pt_Sim_cases h with ⟨rfl, rfl⟩ | ⟨t, r, t', r', rfl, rfl, hk, -, hr⟩
      · exact .none
      · rw [pt_source_eq, pt_source_eq, hk, pt_allotAhead_sim hr]
        refine .ite (fun _ => .ite (fun _ => ?_) fun _ => ihI _ _ _ _ hr) fun _ => .ite (fun _ => ?_) fun _ => ?_
        · refine (ihIt _ _ hr).bindResL fun is r1 is' r1' his hr1 => ?_
          refine pt_expect_bind .rbrace hr1 fun rb r2 rb' r2' hr2 => ?_
          exact .some ⟨by simp only [Source.skel, his], hr2⟩
        · refine (hE _ _ hr).bindRes fun cap _ r1 cap' _ r1' hc hr1 => ?_
          refine pt_expect_bind .kwFrom hr1 fun _ r2 _ r2' hr2 => ?_
          refine (ihS _ _ hr2).bindRes fun src s r3 src' s' r3' hs hr3 => ?_
          exact .some ⟨by simp only [Source.skel, hc, hs], hr3⟩
        · refine (hE _ _ h).bindRes fun addr s r1 addr' s' r1' ha hr1 => ?_
          rcases (pt_expect_sim .kwAllowing hr1).inv with
            ⟨h1, h2⟩ | ⟨⟨_, r2⟩, ⟨_, r2'⟩, h1, h2, hr2⟩ <;> simp only [h1, h2]
          · exact .some ⟨by simp only [Source.skel, ha], hr1⟩
          · rcases pt_Sim_cases hr2 with ⟨rfl, rfl⟩ | ⟨u, ru, u', ru', rfl, rfl, hku, -, hru⟩
            · exact .none
            · rcases pt_Sim_cases hru with ⟨rfl, rfl⟩ | ⟨o, ro, o', ro', rfl, rfl, hko, -, hro⟩
              · exact .none
              · simp only [hku, hko]
                refine .ite (fun _ => .some ⟨by simp only [Source.skel, ha], hro⟩) fun _ =>
                  .ite (fun _ => ?_) fun _ => .none
                refine pt_expect_bind .kwUp hru fun _ r4 _ r4' hr4 => ?_
                refine pt_expect_bind .kwTo hr4 fun _ r5 _ r5' hr5 => ?_
                refine (hE _ _ hr5).bindRes fun b s6 r6 b' s6' r6' hb hr6 => ?_
                exact .some ⟨by simp only [Source.skel, ha, hb], hr6⟩
    · intro lb lb' ts ts' h
      rw [pt_srcInorder_eq, pt_srcInorder_eq]
      refine (ihSs _ _ h).bindResL fun ss r1 ss' r1' hss hr1 => ?_
      refine pt_expect_bind .rbrace hr1 fun rb r2 rb' r2' hr2 => ?_
      exact .some ⟨by simp only [Source.skel, hss], hr2⟩
    · intro ts ts' h
      rcases pt_Sim_cases h with ⟨rfl, rfl⟩ | ⟨t, r, t', r', rfl, rfl, hk, -, -⟩
      · rw [pt_sources_nil]; exact .some ⟨rfl, h⟩
      · rw [pt_sources_eq, pt_sources_eq, hk]
        refine .ite (fun _ => ?_) fun _ => .some ⟨rfl, h⟩
        refine (ihS _ _ h).bindRes fun s _ r1 s' _ r1' hs hr1 => ?_
        refine (ihSs _ _ hr1).bindResL fun ss r2 ss' r2' hss hr2 => ?_
        exact .some ⟨by simp only [sourcesSkel, hs, hss], hr2⟩
    · intro ts ts' h
      rcases pt_Sim_cases h with ⟨rfl, rfl⟩ | ⟨a, r, a', r', rfl, rfl, hk, ht, hr⟩
      · exact .none
      · rw [pt_srcItems_eq, pt_srcItems_eq]
        refine (pt_allotOfTok_sim hk ht).bind fun av av' hav => ?_
        refine pt_expect_bind .kwFrom hr fun _ r1 _ r1' hr1 => ?_
        refine (ihS _ _ hr1).bindRes fun src s r2 src' s' r2' hs hr2 => ?_
        dsimp only
        rw [pt_allotNext_sim hr2]
        refine .ite (fun _ => ?_) fun _ => .some ⟨by simp only [srcItemsSkel, hav, hs], hr2⟩
        refine (ihIt _ _ hr2).bindResL fun is r3 is' r3' his hr3 => ?_
        exact .some ⟨by simp only [srcItemsSkel, hav, hs, his], hr3⟩

theorem pt_dest_sim : ∀ f : Nat,
    (∀ ts ts', pt_Sim ts ts' → Option.Rel (pt_Res Dest.skel) (pDest f ts) (pDest f ts')) ∧
    (∀ ts ts', pt_Sim ts ts' → Option.Rel (pt_Res KoD.skel) (pKoD f ts) (pKoD f ts')) ∧
    (∀ ts ts', pt_Sim ts ts' → Option.Rel (pt_ResL clausesSkel) (pClauses f ts) (pClauses f ts')) ∧
    (∀ ts ts', pt_Sim ts ts' → Option.Rel (pt_ResL dstItemsSkel) (pDstItems f ts) (pDstItems f ts')) := by
  intro f
  induction f with
  | zero => exact ⟨fun _ _ _ => .none, fun _ _ _ => .none, fun _ _ _ => .none, fun _ _ _ => .none⟩
  | succ f ih =>
    obtain ⟨ihD, ihK, ihC, ihIt⟩ := ih
    have hE := (pt_expr_sim f).1
    refine ⟨?_, ?_, ?_, ?_⟩
    · intro ts ts' h
      rcases pt_Sim_cases h with ⟨rfl, rfl⟩ | ⟨t, r, t', r', rfl, rfl, hk, -, hr⟩
      · exact .none
      · rw [pt_dest_eq, pt_dest_eq, hk]
        refine .ite (fun _ => ?_) fun _ => ?_
        · rcases pt_Sim_cases hr with ⟨rfl, rfl⟩ | ⟨a, ra, a', ra', rfl, rfl, hka, -, -⟩
          · exact .none
          · simp only [hka]
            refine .ite (fun _ => ?_) fun _ => .ite (fun _ => ?_) fun _ => .none
            · refine (ihC _ _ hr).bindResL fun cs r1 cs' r1' hcs hr1 => ?_
              refine pt_expect_bind .kwRemaining hr1 fun _ r2 _ r2' hr2 => ?_
              refine (ihK _ _ hr2).bindRes fun k _ r3 k' _ r3' hkd hr3 => ?_
              refine pt_expect_bind .rbrace hr3 fun rb r4 rb' r4' hr4 => ?_
              exact .some ⟨by simp only [Dest.skel, hcs, hkd], hr4⟩
            · refine (ihIt _ _ hr).bindResL fun is r1 is' r1' his hr1 => ?_
              refine pt_expect_bind .rbrace hr1 fun rb r2 rb' r2' hr2 => ?_
              exact .some ⟨by simp only [Dest.skel, his], hr2⟩
        · refine (hE _ _ h).bindRes fun e s r1 e' s' r1' he hr1 => ?_
          exact .some ⟨by simp only [Dest.skel, he], hr1⟩
    · intro ts ts' h
      rcases pt_Sim_cases h with ⟨rfl, rfl⟩ | ⟨t, r, t', r', rfl, rfl, hk, -, hr⟩
      · exact .none
      · rw [pt_kod_eq, pt_kod_eq, hk]
        refine .ite (fun _ => .some ⟨rfl, hr⟩) fun _ => .ite (fun _ => ?_) fun _ => .none
        refine (ihD _ _ hr).bindRes fun d s r1 d' s' r1' hd hr1 => ?_
        exact .some ⟨by simp only [KoD.skel, hd], hr1⟩
    · intro ts ts' h
      rcases pt_Sim_cases h with ⟨rfl, rfl⟩ | ⟨t, r, t', r', rfl, rfl, hk, -, hr⟩
      · rw [pt_clauses_nil]; exact .some ⟨rfl, h⟩
      · rw [pt_clauses_eq, pt_clauses_eq, hk]
        refine .ite (fun _ => ?_) fun _ => .some ⟨rfl, h⟩
        refine (hE _ _ hr).bindRes fun cap _ r1 cap' _ r1' hc hr1 => ?_
        refine (ihK _ _ hr1).bindRes fun k s r2 k' s' r2' hkd hr2 => ?_
        refine (ihC _ _ hr2).bindResL fun cs r3 cs' r3' hcs hr3 => ?_
        exact .some ⟨by simp only [clausesSkel, hc, hkd, hcs], hr3⟩
    · intro ts ts' h
      rcases pt_Sim_cases h with ⟨rfl, rfl⟩ | ⟨a, r, a', r', rfl, rfl, hk, ht, hr⟩
      · exact .none
      · rw [pt_dstItems_eq, pt_dstItems_eq]
        refine (pt_allotOfTok_sim hk ht).bind fun av av' hav => ?_
        refine (ihK _ _ hr).bindRes fun k s r1 k' s' r1' hkd hr1 => ?_
        dsimp only
        rw [pt_allotNext_sim hr1]
        refine .ite (fun _ => ?_) fun _ => .some ⟨by simp only [dstItemsSkel, hav, hkd], hr1⟩
        refine (ihIt _ _ hr1).bindResL fun is r2 is' r2' his hr2 => ?_
        exact .some ⟨by simp only [dstItemsSkel, hav, hkd, his], hr2⟩

theorem pt_argsTail_sim : ∀ (f : Nat) (ts ts' : List Tok), pt_Sim ts ts' →
    Option.Rel (pt_ResL (List.map Expr.skel)) (pArgsTail f ts) (pArgsTail f ts') := by
  intro f
  induction f with
  | zero => exact fun _ _ _ => .none
  | succ f ih =>
    intro ts ts' h
    rw [pt_argsTail_eq, pt_argsTail_eq]
    rcases (pt_expect_sim .comma h).inv with ⟨h1, h2⟩ | ⟨⟨_, r⟩, ⟨_, r'⟩, h1, h2, hr⟩ <;>
      simp only [h1, h2]
    · exact .some ⟨rfl, h⟩
    · refine ((pt_expr_sim f).1 _ _ hr).bindRes fun e _ r1 e' _ r1' he hr1 => ?_
      refine (ih _ _ hr1).bindResL fun es r2 es' r2' hes hr2 => ?_
      exact .some ⟨by simp only [List.map_cons, he, hes], hr2⟩

theorem pt_fnCall_sim (f : Nat) {ts ts' : List Tok} (h : pt_Sim ts ts') :
    Option.Rel (pt_Res FnCall.skel) (pFnCall f ts) (pFnCall f ts') := by
  rcases pt_Sim_cases h with ⟨rfl, rfl⟩ | ⟨nm, r, nm', r', rfl, rfl, hk, ht, hr⟩
  · exact .none
  · rcases pt_Sim_cases hr with ⟨rfl, rfl⟩ | ⟨lp, rl, lp', rl', rfl, rfl, hkl, -, hrl⟩
    · exact .none
    · rw [pt_fnCall_eq, pt_fnCall_eq, hk, hkl, ht]
      refine .ite (fun _ => ?_) fun _ => .none
      rcases (pt_expect_sim .rparen hrl).inv with ⟨h1, h2⟩ | ⟨⟨_, r1⟩, ⟨_, r1'⟩, h1, h2, hr1⟩ <;>
        simp only [h1, h2]
      · refine ((pt_expr_sim f).1 _ _ hrl).bindRes fun e _ r2 e' _ r2' he hr2 => ?_
        refine (pt_argsTail_sim f _ _ hr2).bindResL fun es r3 es' r3' hes hr3 => ?_
        refine pt_expect_bind .rparen hr3 fun _ r4 _ r4' hr4 => ?_
        exact .some ⟨by simp only [FnCall.skel, List.map_cons, he, hes], hr4⟩
      · exact .some ⟨rfl, hr1⟩

theorem pt_sentValue_sim (f : Nat) {ts ts' : List Tok} (h : pt_Sim ts ts') :
    Option.Rel (pt_Res SentValue.skel) (pSentValue f ts) (pSentValue f ts') := by
  have hE := (pt_expr_sim f).1
  rcases pt_Sim_cases h with ⟨rfl, rfl⟩ | ⟨t, r, t', r', rfl, rfl, hk, -, hr⟩
  · exact .none
  · have hlit : Option.Rel (pt_Res SentValue.skel)
        ((pExpr f (t :: r)).bind fun (e, stop, r1) => some (.lit (rangeOf t stop) e, stop, r1))
        ((pExpr f (t' :: r')).bind fun (e, stop, r1) => some (.lit (rangeOf t' stop) e, stop, r1)) := by
      refine (hE _ _ h).bindRes fun e s r1 e' s' r1' he hr1 => ?_
      exact .some ⟨by simp only [SentValue.skel, he], hr1⟩
    rw [pt_sentValue_eq, pt_sentValue_eq, hk]
    refine .ite (fun _ => ?_) fun _ => hlit
    refine (hE _ _ hr).bindRes fun a _ r1 a' _ r1' ha hr1 => ?_
    rcases (pt_expect_sim .star hr1).inv with ⟨h1, h2⟩ | ⟨⟨_, r2⟩, ⟨_, r2'⟩, h1, h2, hr2⟩ <;>
      simp only [h1, h2]
    · exact hlit
    · refine pt_expect_bind .rbracket hr2 fun rb r3 rb' r3' hr3 => ?_
      exact .some ⟨by simp only [SentValue.skel, ha], hr3⟩

theorem pt_statement_sim (f : Nat) {ts ts' : List Tok} (h : pt_Sim ts ts') :
    Option.Rel (pt_Res Statement.skel) (pStatement f ts) (pStatement f ts') := by
  rcases pt_Sim_cases h with ⟨rfl, rfl⟩ | ⟨t, r, t', r', rfl, rfl, hk, -, hr⟩
  · exact .none
  · rw [pt_statement_eq, pt_statement_eq, hk]
    refine .ite (fun _ => ?_) fun _ => .ite (fun _ => ?_) fun _ => ?_
    · refine (pt_sentValue_sim f hr).bindRes fun sv _ r1 sv' _ r1' hsv hr1 => ?_
      refine pt_expect_bind .lparen hr1 fun _ r2 _ r2' hr2 => ?_
      refine pt_expect_bind .kwSource hr2 fun _ r3 _ r3' hr3 => ?_
      refine pt_expect_bind .eq hr3 fun _ r4 _ r4' hr4 => ?_
      refine ((pt_source_sim f).1 _ _ hr4).bindRes fun src _ r5 src' _ r5' hsrc hr5 => ?_
      refine pt_expect_bind .kwDestination hr5 fun _ r6 _ r6' hr6 => ?_
      refine pt_expect_bind .eq hr6 fun _ r7 _ r7' hr7 => ?_
      refine ((pt_dest_sim f).1 _ _ hr7).bindRes fun dst _ r8 dst' _ r8' hdst hr8 => ?_
      refine pt_expect_bind .rparen hr8 fun rp r9 rp' r9' hr9 => ?_
      exact .some ⟨by simp only [Statement.skel, hsv, hsrc, hdst], hr9⟩
    · refine (pt_sentValue_sim f hr).bindRes fun sv _ r1 sv' _ r1' hsv hr1 => ?_
      refine pt_expect_bind .kwFrom hr1 fun _ r2 _ r2' hr2 => ?_
      refine ((pt_expr_sim f).1 _ _ hr2).bindRes fun e s r3 e' s' r3' he hr3 => ?_
      exact .some ⟨by simp only [Statement.skel, hsv, he], hr3⟩
    · refine (pt_fnCall_sim f h).bindRes fun c s r1 c' s' r1' hc hr1 => ?_
      exact .some ⟨by simp only [Statement.skel, hc], hr1⟩

theorem pt_statements_sim (f : Nat) : ∀ (n : Nat) (ts ts' : List Tok), pt_Sim ts ts' →
    Option.Rel (fun ss ss' => ss.map Statement.skel = ss'.map Statement.skel)
      (pStatements f n ts) (pStatements f n ts') := by
  intro n
  induction n with
  | zero => exact fun _ _ _ => .none
  | succ n ih =>
    intro ts ts' h
    rcases pt_Sim_cases h with ⟨rfl, rfl⟩ | ⟨t, r, t', r', rfl, rfl, -, -, -⟩
    · rw [pt_statements_nil]; exact .some rfl
    · rw [pt_statements_eq, pt_statements_eq]
      refine (pt_statement_sim f h).bindRes fun s _ r1 s' _ r1' hs hr1 => ?_
      refine (ih _ _ hr1).bind fun ss ss' hss => .some ?_
      simp only [List.map_cons, hs, hss]

theorem pt_varDecl_sim (f : Nat) {ts ts' : List Tok} (h : pt_Sim ts ts') :
    Option.Rel (pt_Res VarDecl.skel) (pVarDecl f ts) (pVarDecl f ts') := by
  rcases pt_Sim_cases h with ⟨rfl, rfl⟩ | ⟨ty, r, ty', r', rfl, rfl, hk, ht, hr⟩
  · exact .none
  · rcases pt_Sim_cases hr with ⟨rfl, rfl⟩ | ⟨nm, rn, nm', rn', rfl, rfl, hkn, htn, hrn⟩
    · exact .none
    · rw [pt_varDecl_eq, pt_varDecl_eq, hk, hkn, ht, htn]
      refine .ite (fun _ => ?_) fun _ => .none
      rcases (pt_expect_sim .eq hrn).inv with ⟨h1, h2⟩ | ⟨⟨_, r1⟩, ⟨_, r1'⟩, h1, h2, hr1⟩ <;>
        simp only [h1, h2]
      · exact .some ⟨rfl, hrn⟩
      · refine (pt_fnCall_sim f hr1).bindRes fun c s r2 c' s' r2' hc hr2 => ?_
        exact .some ⟨by simp only [VarDecl.skel, Option.map_some, hc], hr2⟩

theorem pt_varDecls_sim (f : Nat) : ∀ (n : Nat) (ts ts' : List Tok), pt_Sim ts ts' →
    Option.Rel (pt_ResL (List.map VarDecl.skel)) (pVarDecls f n ts) (pVarDecls f n ts') := by
  intro n
  induction n with
  | zero => exact fun _ _ _ => .none
  | succ n ih =>
    intro ts ts' h
    rcases pt_Sim_cases h with ⟨rfl, rfl⟩ | ⟨t, r, t', r', rfl, rfl, hk, -, hr⟩
    · exact .none
    · rw [pt_varDecls_eq, pt_varDecls_eq, hk]
      refine .ite (fun _ => .some ⟨rfl, hr⟩) fun _ => ?_
      refine (pt_varDecl_sim f h).bindRes fun d _ r1 d' _ r1' hd hr1 => ?_
      refine (ih _ _ hr1).bindResL fun ds r2 ds' r2' hds hr2 => ?_
      exact .some ⟨by simp only [List.map_cons, hd, hds], hr2⟩

end NS
