/-
  Proofs/StatementLemmas.lean — for Properties/Statement.lean: when `specSend` /
  `specSendAll` succeed, the names a draw / a distribution can mention, and the
  "all zero" facts of a zero-amount statement.
-/
import Spec.Statement
import Proofs.DistributeLemmas

namespace NS

theorem specSend_ok_iff {asset : String} {n : Int} {rs : RSource} {rd : RDest} {av : Avail}
    {ps : List Posting} : specSend asset n rs rd av = .ok ps ↔
    0 ≤ n ∧ ∃ l d, draw asset rs av n = .ok l ∧ sumPulls l = n ∧ distribute rd n = .ok d ∧
      ps = Reconcile asset (nonzero l) (nonzero d) := by
  unfold specSend
  constructor
  · intro h
    split at h
    · cases h
    split at h <;> try cases h
    split at h
    · split at h <;> cases h
      exact ⟨by omega, _, _, ‹_›, ‹_›, ‹_›, rfl⟩
    · cases h
  · rintro ⟨hn, l, d, hl, hsum, hd, rfl⟩
    rw [if_neg (by omega), hl]
    dsimp only
    rw [if_pos hsum, hd]

theorem specSendAll_ok_iff {asset : String} {rs : RSource} {rd : RDest} {av : Avail}
    {ps : List Posting} : specSendAll asset rs rd av = .ok ps ↔
    ∃ l d, drawAll asset rs av = .ok l ∧ distribute rd (sumPulls l) = .ok d ∧
      ps = Reconcile asset (nonzero l) (nonzero d) := by
  unfold specSendAll
  constructor
  · intro h
    split at h <;> try cases h
    split at h <;> cases h
    exact ⟨_, _, ‹_›, ‹_›, rfl⟩
  · rintro ⟨l, d, hl, hd, rfl⟩
    rw [hl]
    dsimp only
    rw [hd]

theorem st_mem_nonzero {l : Pulls} {p : String × Int} (h : p ∈ nonzero l) : p ∈ l ∧ p.2 ≠ 0 := by
  simpa [nonzero] using h

theorem st_nonzero_pos (l : Pulls) (h : ∀ p ∈ l, 0 ≤ p.2) : ∀ p ∈ nonzero l, 0 < p.2 := by
  intro p hp
  obtain ⟨h1, h2⟩ := st_mem_nonzero hp
  have := h p h1
  omega

theorem st_nonzero_all_zero (l : Pulls) (h : ∀ p ∈ l, p.2 = 0) : nonzero l = [] :=
  List.filter_eq_nil_iff.2 fun p hp => by simp [h p hp]

theorem st_sumPulls_all_zero : ∀ (l : Pulls), (∀ p ∈ l, p.2 = 0) → sumPulls l = 0
  | [], _ => rfl
  | (a, m) :: t, h => by
      rw [List.forall_mem_cons] at h
      rw [sumPulls, st_sumPulls_all_zero t h.2, show m = 0 from h.1]
      rfl

mutual
theorem st_draw_zero_all (asset : String) : ∀ (r : RSource) (av : Avail) (l : Pulls),
    draw asset r av 0 = .ok l → ∀ p ∈ l, p.2 = 0
  | .acct a od, av, l, h => by
      cases h
      exact List.forall_mem_singleton.2 (Int.min_eq_right (Int.le_max_left 0 _))
  | .unb a, av, l, h => by
      cases h
      exact List.forall_mem_singleton.2 rfl
  | .capped cap s, av, l, h => by
      rw [draw, Int.max_eq_left (Int.min_le_left 0 cap)] at h
      exact st_draw_zero_all asset s av l h
  | .inorder rs, av, l, h => by
      rw [draw] at h
      exact st_drawList_zero_all asset rs av l h
  | .allot qs subs, av, l, h => by
      obtain ⟨parts, hparts, h⟩ := draw_allot_ok h
      exact st_drawAllot_zero_all asset subs parts av l (allotOf_zero qs parts hparts) h

theorem st_drawList_zero_all (asset : String) : ∀ (rs : List RSource) (av : Avail) (l : Pulls),
    drawList asset rs av 0 = .ok l → ∀ p ∈ l, p.2 = 0
  | [], av, l, h => by
      cases h
      exact List.forall_mem_nil _
  | s :: ss, av, l, h => by
      obtain ⟨l1, l2, h1, h2, rfl⟩ := drawList_cons_ok h
      have a1 := st_draw_zero_all asset s av l1 h1
      rw [st_sumPulls_all_zero l1 a1, Int.sub_zero] at h2
      exact List.forall_mem_append.2 ⟨a1, st_drawList_zero_all asset ss _ l2 h2⟩

theorem st_drawAllot_zero_all (asset : String) : ∀ (subs : List RSource) (parts : List Int) (av : Avail)
    (l : Pulls), (∀ p ∈ parts, p = 0) → drawAllot asset subs parts av = .ok l → ∀ p ∈ l, p.2 = 0
  | [], parts, av, l, _, h => by
      cases h
      exact List.forall_mem_nil _
  | _ :: _, [], av, l, _, h => by
      cases h
  | s :: ss, p :: ps, av, l, hz, h => by
      rw [List.forall_mem_cons] at hz
      obtain ⟨l1, l2, h1, -, h2, rfl⟩ := drawAllot_cons_ok h
      exact List.forall_mem_append.2 ⟨st_draw_zero_all asset s av l1 (hz.1 ▸ h1),
        st_drawAllot_zero_all asset ss ps _ l2 hz.2 h2⟩
end

theorem st_mem_append_names {l1 l2 : Pulls} {A B : List String}
    (h1 : ∀ p ∈ l1, p.1 ∈ A) (h2 : ∀ p ∈ l2, p.1 ∈ B) : ∀ p ∈ l1 ++ l2, p.1 ∈ A ++ B :=
  List.forall_mem_append.2 ⟨fun p hp => List.mem_append_left _ (h1 p hp),
    fun p hp => List.mem_append_right _ (h2 p hp)⟩

mutual
theorem st_draw_names (asset : String) : ∀ (r : RSource) (av : Avail) (need : Int) (l : Pulls),
    draw asset r av need = .ok l → ∀ p ∈ l, p.1 ∈ accountsOfS r
  | .acct a od, av, need, l, h => by
      cases h
      exact List.forall_mem_singleton.2 (List.mem_singleton.2 rfl)
  | .unb a, av, need, l, h => by
      cases h
      exact List.forall_mem_singleton.2 (List.mem_singleton.2 rfl)
  | .capped cap s, av, need, l, h => by
      rw [draw] at h
      rw [accountsOfS]
      exact st_draw_names asset s av _ l h
  | .inorder rs, av, need, l, h => by
      rw [draw] at h
      rw [accountsOfS]
      exact st_drawList_names asset rs av need l h
  | .allot qs subs, av, need, l, h => by
      obtain ⟨parts, -, h⟩ := draw_allot_ok h
      rw [accountsOfS]
      exact st_drawAllot_names asset subs parts av l h

theorem st_drawList_names (asset : String) : ∀ (rs : List RSource) (av : Avail) (need : Int) (l : Pulls),
    drawList asset rs av need = .ok l → ∀ p ∈ l, p.1 ∈ accountsOfSList rs
  | [], av, need, l, h => by
      cases h
      exact List.forall_mem_nil _
  | s :: ss, av, need, l, h => by
      obtain ⟨l1, l2, h1, h2, rfl⟩ := drawList_cons_ok h
      rw [accountsOfSList]
      exact st_mem_append_names (st_draw_names asset s av need l1 h1)
        (st_drawList_names asset ss _ _ l2 h2)

theorem st_drawAllot_names (asset : String) : ∀ (subs : List RSource) (parts : List Int) (av : Avail)
    (l : Pulls), drawAllot asset subs parts av = .ok l → ∀ p ∈ l, p.1 ∈ accountsOfSList subs
  | [], parts, av, l, h => by
      cases h
      exact List.forall_mem_nil _
  | _ :: _, [], av, l, h => by
      cases h
  | s :: ss, p :: ps, av, l, h => by
      obtain ⟨l1, l2, h1, -, h2, rfl⟩ := drawAllot_cons_ok h
      rw [accountsOfSList]
      exact st_mem_append_names (st_draw_names asset s av p l1 h1)
        (st_drawAllot_names asset ss ps _ l2 h2)
end

theorem st_drawAll_names (asset : String) (r : RSource) (av : Avail) (l : Pulls)
    (h : drawAll asset r av = .ok l) : ∀ p ∈ l, p.1 ∈ accountsOfS r := by
  obtain ⟨b, -, hb⟩ := drawAll_eq_draw asset r av l h
  exact st_draw_names asset r av b l (hb b le_rfl)

theorem st_drawAllList_names (asset : String) : ∀ (rs : List RSource) (av : Avail) (l : Pulls),
    drawAllList asset rs av = .ok l → ∀ p ∈ l, p.1 ∈ accountsOfSList rs := by
  intro rs av l h
  obtain ⟨b, -, hb⟩ := drawAllList_eq_drawList asset rs av l h
  exact st_drawList_names asset rs av b l (hb b le_rfl)

theorem st_mem_append_namesK {l1 l2 : Pulls} {A B : List String}
    (h1 : ∀ p ∈ l1, p.1 ∈ A ∨ p.1 = KEPT_ADDR) (h2 : ∀ p ∈ l2, p.1 ∈ B ∨ p.1 = KEPT_ADDR) :
    ∀ p ∈ l1 ++ l2, p.1 ∈ A ++ B ∨ p.1 = KEPT_ADDR :=
  List.forall_mem_append.2 ⟨fun p hp => (h1 p hp).imp_left (List.mem_append_left _),
    fun p hp => (h2 p hp).imp_left (List.mem_append_right _)⟩

mutual
theorem st_distribute_names : (r : RDest) → (n : Int) → (l : Pulls) →
    distribute r n = .ok l → ∀ p ∈ l, p.1 ∈ accountsOfD r ∨ p.1 = KEPT_ADDR
  | .acct a, n, l, h => by
      cases h
      exact List.forall_mem_singleton.2 (.inl (List.mem_singleton.2 rfl))
  | .inorder caps tos rest, n, l, h => by
      obtain ⟨left, l1, h1, h2⟩ := distribute_inorder_ok h
      have a1 := st_distClauses_names tos caps n left l1 h1
      rw [accountsOfD]
      rcases h2 with ⟨-, rfl⟩ | ⟨l2, h2, rfl⟩
      · exact fun p hp => (a1 p hp).imp_left (List.mem_append_left _)
      · exact st_mem_append_namesK a1 (st_distKoD_names rest left l2 h2)
  | .allot qs tos, n, l, h => by
      obtain ⟨parts, -, h⟩ := distribute_allot_ok h
      rw [accountsOfD]
      exact st_distAllot_names tos parts l h

theorem st_distKoD_names : (t : RKoD) → (n : Int) → (l : Pulls) →
    distKoD t n = .ok l → ∀ p ∈ l, p.1 ∈ accountsOfK t ∨ p.1 = KEPT_ADDR
  | .kept, n, l, h => by
      cases h
      exact List.forall_mem_singleton.2 (.inr rfl)
  | .to d, n, l, h => by
      rw [distKoD] at h
      rw [accountsOfK]
      exact st_distribute_names d n l h

theorem st_distClauses_names : (tos : List RKoD) → (caps : List Int) → (left left' : Int) → (l : Pulls) →
    distClauses caps tos left = .ok (left', l) → ∀ p ∈ l, p.1 ∈ accountsOfKs tos ∨ p.1 = KEPT_ADDR
  | tos, [], left, left', l, h => by
      rw [distClauses] at h
      cases h
      exact List.forall_mem_nil _
  | [], c :: cs, left, left', l, h => by
      cases h
  | t :: ts, c :: cs, left, left', l, h => by
      rw [accountsOfKs]
      rcases distClauses_cons_ok h with ⟨-, -, rfl⟩ | ⟨-, h⟩ | ⟨l1, l2, h1, h2, rfl⟩
      · exact List.forall_mem_nil _
      · exact fun p hp => (st_distClauses_names ts cs left left' l h p hp).imp_left (List.mem_append_right _)
      · exact st_mem_append_namesK (st_distKoD_names t _ l1 h1) (st_distClauses_names ts cs _ left' l2 h2)

theorem st_distAllot_names : (tos : List RKoD) → (parts : List Int) → (l : Pulls) →
    distAllot tos parts = .ok l → ∀ p ∈ l, p.1 ∈ accountsOfKs tos ∨ p.1 = KEPT_ADDR
  | [], parts, l, h => by
      cases h
      exact List.forall_mem_nil _
  | t :: ts, [], l, h => by
      cases h
  | t :: ts, x :: xs, l, h => by
      obtain ⟨l1, l2, h1, h2, rfl⟩ := distAllot_cons_ok h
      rw [accountsOfKs]
      exact st_mem_append_namesK (st_distKoD_names t x l1 h1) (st_distAllot_names ts xs l2 h2)
end

end NS
