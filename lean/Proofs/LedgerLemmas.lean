/-
  The cache as an association list (`cacheGet`/`cacheSet`), `assocGet`/`assocSet`, `replay`, and
  `runStatements`: the lemmas behind the ledger properties.
-/
import Spec.Ledger

namespace NS

theorem lg_cacheGet_nil (a s : String) : cacheGet [] a s = 0 := rfl

theorem lg_cacheGet_cons (k : String × String) (w : Int) (c : Cache) (a s : String) :
    cacheGet ((k, w) :: c) a s = if k = (a, s) then w else cacheGet c a s := by
  unfold cacheGet
  by_cases h : k = (a, s)
  · simp only [h, BEq.rfl, List.find?_cons_of_pos, if_true]
  · simp only [beq_iff_eq, h, not_false_eq_true, List.find?_cons_of_neg, if_false]

theorem lg_cacheHas_nil (a s : String) : cacheHas [] a s = false := rfl

theorem lg_cacheHas_cons (k : String × String) (w : Int) (c : Cache) (a s : String) :
    cacheHas ((k, w) :: c) a s = (decide (k = (a, s)) || cacheHas c a s) := by
  simp only [cacheHas, List.any_cons, Bool.beq_eq_decide_eq]

theorem lg_cacheHas_iff_find (c : Cache) (a s : String) :
    cacheHas c a s = true ↔ (c.find? (fun p => p.1 == (a, s))).isSome = true := by
  simp only [cacheHas, List.any_eq_true, List.find?_isSome]

/-! ### association lists: `assocGet` after `assocSet` -/

theorem lg_assocGet_cons {κ ν : Type} [BEq κ] (x : κ × ν) (m : List (κ × ν)) (k : κ) :
    assocGet (x :: m) k = if x.1 == k then some x.2 else assocGet m k := by
  simp only [assocGet, List.find?_cons]
  cases x.1 == k <;> rfl

theorem lg_assocGet_map_same {κ ν : Type} [BEq κ] [LawfulBEq κ] (m : List (κ × ν)) (k : κ) (v : ν)
    (h : m.any (fun p => p.1 == k) = true) :
    assocGet (m.map (fun p => if p.1 == k then (k, v) else p)) k = some v := by
  induction m with
  | nil => cases h
  | cons p t ih =>
    rw [List.any_cons, Bool.or_eq_true] at h
    rw [List.map_cons, lg_assocGet_cons]
    by_cases hp : (p.1 == k) = true
    · rw [if_pos hp, if_pos (beq_self_eq_true k)]
    · rw [if_neg hp, if_neg hp]
      exact ih (h.resolve_left hp)

theorem lg_assocGet_map_other {κ ν : Type} [BEq κ] [LawfulBEq κ] (m : List (κ × ν)) (k k' : κ) (v : ν)
    (h : k' ≠ k) :
    assocGet (m.map (fun p => if p.1 == k then (k, v) else p)) k' = assocGet m k' := by
  induction m with
  | nil => rfl
  | cons p t ih =>
    rw [List.map_cons, lg_assocGet_cons, lg_assocGet_cons, ih]
    by_cases hp : (p.1 == k) = true
    · have hk : (k == k') = false := beq_eq_false_iff_ne.mpr (Ne.symm h)
      rw [if_pos hp, beq_iff_eq.mp hp]
      simp only [hk, Bool.false_eq_true, if_false]
    · rw [if_neg hp]

theorem lg_assocGet_append {κ ν : Type} [BEq κ] (m : List (κ × ν)) (x : κ × ν) (k' : κ) :
    assocGet (m ++ [x]) k' =
      match assocGet m k' with
      | some w => some w
      | none => if x.1 == k' then some x.2 else none := by
  unfold assocGet
  rw [List.find?_append]
  cases m.find? (fun p => p.1 == k') with
  | some _ => rfl
  | none =>
    rw [Option.none_or, List.find?_cons]
    cases x.1 == k' <;> rfl

theorem lg_assocGet_of_not_any {κ ν : Type} [BEq κ] (m : List (κ × ν)) (k : κ)
    (h : m.any (fun p => p.1 == k) = false) : assocGet m k = none := by
  unfold assocGet
  rw [List.find?_eq_none.mpr (List.any_eq_false.mp h)]
  rfl

theorem lg_assocGet_assocSet {κ ν : Type} [BEq κ] [LawfulBEq κ] (m : List (κ × ν)) (k k' : κ) (v : ν) :
    assocGet (assocSet m k v) k' = if k' == k then some v else assocGet m k' := by
  unfold assocSet
  by_cases hk : (k' == k) = true
  · rw [if_pos hk]
    cases beq_iff_eq.mp hk
    split
    · exact lg_assocGet_map_same m k v ‹_›
    · rw [lg_assocGet_append, lg_assocGet_of_not_any m k (Bool.eq_false_iff.mpr ‹_›)]
      exact if_pos hk
  · rw [if_neg hk]
    split
    · exact lg_assocGet_map_other m k k' v fun e => hk (beq_iff_eq.mpr e)
    · rw [lg_assocGet_append]
      cases assocGet m k' with
      | some w => rfl
      | none => exact if_neg fun e => hk (beq_iff_eq.mpr (beq_iff_eq.mp e).symm)

/-! ### the cache is such a list -/

theorem lg_cacheGet_eq (c : Cache) (a s : String) : cacheGet c a s = (assocGet c (a, s)).getD 0 := by
  unfold cacheGet assocGet
  cases c.find? (fun p => p.1 == (a, s)) <;> rfl

theorem lg_cacheGet_of_not_has (c : Cache) (a s : String) (h : cacheHas c a s = false) :
    cacheGet c a s = 0 := by
  rw [lg_cacheGet_eq, lg_assocGet_of_not_any c (a, s) h]
  rfl

theorem lg_cacheGet_append (c : Cache) (a s : String) (v : Int) (a' s' : String) :
    cacheGet (c ++ [((a, s), v)]) a' s' =
      if cacheHas c a' s' = true then cacheGet c a' s'
      else if a' = a ∧ s' = s then v else 0 := by
  induction c with
  | nil =>
    have e : ((a, s) = (a', s')) = (a' = a ∧ s' = s) :=
      propext ⟨fun h => by cases h; exact ⟨rfl, rfl⟩, fun h => by rw [h.1, h.2]⟩
    simp only [List.nil_append, lg_cacheGet_cons, lg_cacheHas_nil, e, lg_cacheGet_nil,
      Bool.false_eq_true, if_false]
  | cons p t ih =>
    obtain ⟨k, w⟩ := p
    rw [List.cons_append, lg_cacheGet_cons, lg_cacheHas_cons, lg_cacheGet_cons, ih]
    by_cases hk : k = (a', s')
    · simp only [hk, if_true, decide_true, Bool.true_or]
    · simp only [hk, if_false, decide_false, Bool.false_or]

theorem lg_cacheSet_eq (c : Cache) (a s : String) (v : Int) : cacheSet c a s v = assocSet c (a, s) v := by
  unfold cacheSet assocSet cacheHas
  congr 1
  refine List.map_congr_left fun p _ => ?_
  split
  · rename_i h
    rw [beq_iff_eq.mp h]
  · rfl

theorem lg_cacheGet_cacheSet (c : Cache) (a s : String) (v : Int) (a' s' : String) :
    cacheGet (cacheSet c a s v) a' s' = if a' = a ∧ s' = s then v else cacheGet c a' s' := by
  rw [lg_cacheGet_eq, lg_cacheSet_eq, lg_assocGet_assocSet, lg_cacheGet_eq]
  simp only [beq_iff_eq, Prod.mk.injEq]
  split <;> rfl

/-! ### one step of `applyPostings` is `applyPosting` on the balances -/

theorem lg_balOfCache_step (c : Cache) (p : Posting) :
    balOfCache
      (cacheSet (cacheSet c p.source p.asset (cacheGet c p.source p.asset - p.amount))
        p.destination p.asset
        (cacheGet (cacheSet c p.source p.asset (cacheGet c p.source p.asset - p.amount))
          p.destination p.asset + p.amount)) = applyPosting (balOfCache c) p := by
  funext a s
  simp only [balOfCache, applyPosting, lg_cacheGet_cacheSet]
  by_cases h1 : a = p.destination ∧ s = p.asset
  · obtain ⟨rfl, rfl⟩ := h1
    by_cases h2 : p.destination = p.source
    · simp only [h2, and_self, if_true]
    · simp only [h2, false_and, and_self, if_false, if_true]
  · simp only [h1, if_false]
    by_cases h2 : a = p.source ∧ s = p.asset
    · obtain ⟨rfl, rfl⟩ := h2
      simp only [and_self, if_true]
    · simp only [h2, if_false]

theorem lg_sumWhere_cons (q : Posting → Prop) [DecidablePred q] (p : Posting) (t : List Posting) :
    (((p :: t).filter (fun p => q p)).map (·.amount)).sum =
      (if q p then p.amount else 0) + ((t.filter (fun p => q p)).map (·.amount)).sum := by
  rw [List.filter_cons]
  by_cases h : q p
  · simp only [h, decide_true, if_true, List.map_cons, List.sum_cons]
  · simp only [h, decide_false, Bool.false_eq_true, if_false, Int.zero_add]

theorem lg_debitsOf_cons (p : Posting) (t : List Posting) (a : String) :
    debitsOf (p :: t) a = (if p.source = a then p.amount else 0) + debitsOf t a :=
  lg_sumWhere_cons (·.source = a) p t

theorem lg_creditsOf_cons (p : Posting) (t : List Posting) (a : String) :
    creditsOf (p :: t) a = (if p.destination = a then p.amount else 0) + creditsOf t a :=
  lg_sumWhere_cons (·.destination = a) p t

theorem lg_applyPosting_apply (B : Bal) (p : Posting) (a : String) :
    applyPosting B p a p.asset =
      B a p.asset - (if p.source = a then p.amount else 0) + (if p.destination = a then p.amount else 0) := by
  simp only [applyPosting, and_true, eq_comm (a := a)]
  split <;> split <;> simp only [Int.sub_zero, Int.add_zero]

theorem lg_run_append (vars : Vars) (s1 s2 : List Statement) (st : RState) :
    runStatements vars (s1 ++ s2) st =
      (match runStatements vars s1 st with
       | .ok (p1, st1) =>
          (match runStatements vars s2 st1 with
           | .ok (p2, st2) => .ok (p1 ++ p2, st2)
           | .err e => .err e
           | .panic s => .panic s)
       | .err e => .err e
       | .panic s => .panic s) := by
  induction s1 generalizing st with
  | nil =>
    simp only [List.nil_append, runStatements]
    cases h : runStatements vars s2 st with
    | ok r => rfl
    | err e => rfl
    | panic s => rfl
  | cons x t ih =>
    simp only [List.cons_append, runStatements]
    cases hx : runStatement vars st x with
    | err e => rfl
    | panic s => rfl
    | ok r =>
      obtain ⟨ps, st'⟩ := r
      simp only [ih]
      cases h1 : runStatements vars t st' with
      | err e => rfl
      | panic s => rfl
      | ok r1 =>
        obtain ⟨p1, st1⟩ := r1
        simp only
        cases h2 : runStatements vars s2 st1 with
        | err e => rfl
        | panic s => rfl
        | ok r2 =>
          obtain ⟨p2, st2⟩ := r2
          simp only [List.append_assoc]

end NS
