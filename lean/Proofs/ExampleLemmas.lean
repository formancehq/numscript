/-
  Proofs/ExampleLemmas.lean — for the non-vacuity examples of Properties/Examples.lean.
-/
import Spec.StoreSpec

namespace NS

/-- an answer built by tabulating `f` over the query -/
theorem ex_ansFind_tabulate_some (f : String → String → Int) (q : BalanceQuery) (a c : String) (v : Int)
    (h : ansFind (q.flatMap (fun p => p.2.map (fun c => ((p.1, c), f p.1 c)))) a c = some v) :
    v = f a c := by
  unfold ansFind at h
  rw [Option.map_eq_some_iff] at h
  obtain ⟨x, hx, rfl⟩ := h
  have hp := List.find?_some hx
  have hm := List.mem_of_find?_eq_some hx
  rw [List.mem_flatMap] at hm
  obtain ⟨p, _, hm⟩ := hm
  rw [List.mem_map] at hm
  obtain ⟨c', _, rfl⟩ := hm
  have : (p.1, c') = (a, c) := by simpa using hp
  cases this
  rfl

theorem ex_ansFind_tabulate_ne_none (f : String → String → Int) (q : BalanceQuery) (a c : String)
    (cs : List String) (hq : (a, cs) ∈ q) (hc : c ∈ cs) :
    ansFind (q.flatMap (fun p => p.2.map (fun c => ((p.1, c), f p.1 c)))) a c ≠ none := by
  unfold ansFind
  intro h
  rw [Option.map_eq_none_iff, List.find?_eq_none] at h
  have hm : ((a, c), f a c) ∈ q.flatMap (fun p => p.2.map (fun c => ((p.1, c), f p.1 c))) := by
    rw [List.mem_flatMap]
    exact ⟨(a, cs), hq, List.mem_map.mpr ⟨c, hc, rfl⟩⟩
  exact h _ hm (by simp)

theorem ex_ansFind_nil (a c : String) : ansFind [] a c = none := rfl

theorem ex_ansFind_cons (a' c' : String) (v' : Int) (t : BalanceAnswer) (a c : String) :
    ansFind (((a', c'), v') :: t) a c = if a' = a ∧ c' = c then some v' else ansFind t a c := by
  unfold ansFind
  rw [List.find?_cons]
  by_cases h : a' = a ∧ c' = c
  · obtain ⟨rfl, rfl⟩ := h; simp
  · have : (((a', c') : String × String) == (a, c)) = false := by simpa using h
    simp only [this, if_neg h]

end NS
