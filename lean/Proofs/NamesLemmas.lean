/-
  Frame lemmas of the static checker model with respect to the three name diagnostics, the unused
  list and the variable resolution table (C16).
-/
import Spec.Names

namespace NS

/-! ## Runs of the checker -/

theorem nm_match_ok {β : Type} {o : Outcome CState} {k : CState → Outcome β} {b : β}
    (h : (match o with
          | .panic s => Outcome.panic s
          | .err e => Outcome.err e
          | .ok st => k st) = .ok b) : ∃ st, o = .ok st ∧ k st = .ok b := by
  cases o with
  | ok st => exact ⟨st, rfl, h⟩
  | err e => cases h
  | panic s => cases h

theorem nm_match_ok₂ {β : Type} {o : Outcome (CState × AllotAcc)}
    {k : CState → AllotAcc → Outcome β} {b : β}
    (h : (match o with
          | .panic s => Outcome.panic s
          | .err e => Outcome.err e
          | .ok (st, acc) => k st acc) = .ok b) : ∃ st acc, o = .ok (st, acc) ∧ k st acc = .ok b := by
  cases o with
  | ok p => exact ⟨p.1, p.2, rfl, h⟩
  | err e => cases h
  | panic s => cases h

/-! ## The part of a checker state the name properties talk about -/

structure nm_Core where
  diags : List Diag
  declared : List (String × VarDecl)
  unused : List (String × Range)
  varRes : List ((Range × String) × VarDecl)
  fnRes : List (Range × String)

def nm_core (st : CState) : nm_Core := ⟨st.diags, st.declared, st.unused, st.varRes, st.fnRes⟩

def nm_names (a : nm_Core) : List String := a.declared.map (·.1)

theorem nm_names_contains (a : nm_Core) (name : String) :
    (nm_names a).contains name = a.declared.any (fun p => p.1 == name) := by
  simp only [nm_names, List.contains_eq_any_beq, List.any_map, Function.comp_def, BEq.comm]

def nm_notNameKind : DiagKind → Prop
  | .unboundVariable _ => False
  | .duplicateVariable _ => False
  | .unusedVar _ => False
  | _ => True

theorem nm_proj_push (ds : List Diag) (r : Range) (k : DiagKind) (hk : nm_notNameKind k) :
    unboundDiags (ds ++ [⟨r, k⟩]) = unboundDiags ds ∧
    duplicateDiags (ds ++ [⟨r, k⟩]) = duplicateDiags ds ∧
    unusedDiags (ds ++ [⟨r, k⟩]) = unusedDiags ds := by
  cases k <;> simp [nm_notNameKind, unboundDiags, duplicateDiags, unusedDiags, List.filterMap_append] at hk ⊢

/-- not used in `T` -/
def nm_nu (T : List Occ) (p : String × Range) : Bool := ! T.any (fun o => o.2 == p.1)

theorem nm_nu_fold (T : List Occ) : (fun (p : String × Range) => ! T.any (fun o => o.2 == p.1)) = nm_nu T := rfl

theorem nm_nu_append (A B : List Occ) (l : List (String × Range)) :
    (l.filter (nm_nu A)).filter (nm_nu B) = l.filter (nm_nu (A ++ B)) := by
  rw [List.filter_filter]
  apply List.filter_congr
  intro p _
  simp [nm_nu, List.any_append, Bool.and_comm]

/-- frame without the clause on `fnRes` -/
structure nm_FrameW (a b : nm_Core) (us : List Occ) : Prop where
  declared : b.declared = a.declared
  unbound : unboundDiags b.diags = unboundDiags a.diags ++ us.filter (fun o => ! (nm_names a).contains o.2)
  dup : duplicateDiags b.diags = duplicateDiags a.diags
  unusedD : unusedDiags b.diags = unusedDiags a.diags
  unused : b.unused = a.unused.filter (fun p => ! us.any (fun o => o.2 == p.1))
  resMono : ∀ p ∈ a.varRes, p ∈ b.varRes
  resNew : ∀ o ∈ us, (nm_names a).contains o.2 = true → ∃ d, (o, d) ∈ b.varRes
  resSound : (∀ p ∈ a.varRes, (p.1.2, p.2) ∈ a.declared) → ∀ p ∈ b.varRes, (p.1.2, p.2) ∈ a.declared

theorem nm_FrameW.names {a b : nm_Core} {us : List Occ} (h : nm_FrameW a b us) :
    nm_names b = nm_names a := by
  rw [nm_names, h.declared, nm_names]

theorem nm_FrameW.refl (a : nm_Core) : nm_FrameW a a [] := by
  constructor <;> first | exact (List.filter_eq_self.2 (by simp)).symm | simp

theorem nm_FrameW.trans {a b c : nm_Core} {us vs : List Occ}
    (h1 : nm_FrameW a b us) (h2 : nm_FrameW b c vs) : nm_FrameW a c (us ++ vs) := by
  constructor
  · rw [h2.declared, h1.declared]
  · rw [h2.unbound, h1.unbound, h1.names, List.filter_append, List.append_assoc]
  · rw [h2.dup, h1.dup]
  · rw [h2.unusedD, h1.unusedD]
  · rw [h2.unused, h1.unused]
    exact nm_nu_append us vs a.unused
  · intro p hp; exact h2.resMono p (h1.resMono p hp)
  · intro o ho hc
    rcases List.mem_append.1 ho with ho | ho
    · obtain ⟨d, hd⟩ := h1.resNew o ho hc
      exact ⟨d, h2.resMono _ hd⟩
    · exact h2.resNew o ho (by rw [h1.names]; exact hc)
  · intro hs p hp
    have := h2.resSound (by rw [h1.declared]; exact h1.resSound hs) p hp
    rwa [h1.declared] at this

theorem nm_FrameW.congr_fnRes {a b : nm_Core} {us : List Occ} {l : List (Range × String)}
    (h : nm_FrameW { a with fnRes := l } b us) : nm_FrameW a b us :=
  ⟨h.declared, h.unbound, h.dup, h.unusedD, h.unused, h.resMono, h.resNew, h.resSound⟩

structure nm_Frame (a b : nm_Core) (us : List Occ) : Prop where
  w : nm_FrameW a b us
  fnRes : b.fnRes = a.fnRes

theorem nm_Frame.refl (a : nm_Core) : nm_Frame a a [] := ⟨nm_FrameW.refl a, rfl⟩

theorem nm_Frame.trans {a b c : nm_Core} {us vs : List Occ}
    (h1 : nm_Frame a b us) (h2 : nm_Frame b c vs) : nm_Frame a c (us ++ vs) :=
  ⟨h1.w.trans h2.w, by rw [h2.fnRes, h1.fnRes]⟩

theorem nm_Frame.cast {a b : nm_Core} {us vs : List Occ} (h : nm_Frame a b us) (e : us = vs) :
    nm_Frame a b vs := e ▸ h

theorem nm_Frame.trans0 {a b c : nm_Core} {us : List Occ}
    (h1 : nm_Frame a b us) (h2 : nm_Frame b c []) : nm_Frame a c us :=
  (h1.trans h2).cast (List.append_nil us)

theorem nm_Frame.ite {a : nm_Core} {c : Prop} [Decidable c] {x y : CState} {us : List Occ}
    (hx : nm_Frame a (nm_core x) us) (hy : nm_Frame a (nm_core y) us) :
    nm_Frame a (nm_core (if c then x else y)) us := by
  split <;> assumption

/-! ## Elementary steps -/

theorem nm_push (st : CState) (r : Range) (k : DiagKind) (hk : nm_notNameKind k := by trivial) :
    nm_Frame (nm_core st) (nm_core (st.push r k)) [] := by
  obtain ⟨h1, h2, h3⟩ := nm_proj_push st.diags r k hk
  exact ⟨{ nm_FrameW.refl (nm_core st) with
    unbound := by simpa [nm_core, CState.push] using h1, dup := h2, unusedD := h3 }, rfl⟩

theorem nm_assertHasType {st st' : CState} {lr : Option Range} {req act : String}
    (h : assertHasType st lr req act = .ok st') : nm_Frame (nm_core st) (nm_core st') [] := by
  unfold assertHasType at h
  split at h
  · cases h; exact nm_Frame.refl _
  · split at h <;> cases h
    exact nm_push _ _ _

theorem nm_checkRatioLiteral (st : CState) (r : Range) (den : Nat) :
    nm_Frame (nm_core st) (nm_core (checkRatioLiteral st r den).1) [] := by
  unfold checkRatioLiteral
  split
  · exact nm_push _ _ _
  · exact nm_Frame.refl _

theorem nm_filter_one (U : List (String × Range)) (r : Range) (name : String) :
    U.filter (fun p => p.1 != name) = U.filter (fun p => ! [(r, name)].any (fun o => o.2 == p.1)) := by
  apply List.filter_congr
  intro p _
  simp [bne, BEq.comm]

theorem nm_var_none {st : CState} (r : Range) {name : String} (h : lookupDecl st name = none) :
    nm_Frame (nm_core st)
      (nm_core { st.push r (.unboundVariable name) with
        unused := (st.push r (.unboundVariable name)).unused.filter (fun p => p.1 != name) }) [(r, name)] := by
  have hc : (nm_names (nm_core st)).contains name = false := by
    rw [nm_names_contains, List.any_eq_false]
    simpa [lookupDecl, nm_core] using h
  refine ⟨{ nm_FrameW.refl (nm_core st) with
    unbound := ?_, dup := ?_, unusedD := ?_, unused := nm_filter_one _ r name, resNew := ?_ }, rfl⟩
  · rw [List.filter_cons_of_pos (by simpa using hc)]
    simp [nm_core, CState.push, unboundDiags, List.filterMap_append]
  · simp [nm_core, CState.push, duplicateDiags, List.filterMap_append]
  · simp [nm_core, CState.push, unusedDiags, List.filterMap_append]
  · intro o ho hco
    rw [List.mem_singleton.1 ho, hc] at hco
    cases hco

theorem nm_var_some {st : CState} (r : Range) {name : String} {d : VarDecl} (h : lookupDecl st name = some d) :
    nm_Frame (nm_core st)
      (nm_core { st with varRes := ((r, name), d) :: st.varRes,
                         unused := st.unused.filter (fun p => p.1 != name) }) [(r, name)] := by
  obtain ⟨p, hp, rfl⟩ := Option.map_eq_some_iff.1 h
  have hm := List.mem_of_find?_eq_some hp
  obtain rfl : p.1 = name := by simpa using List.find?_some hp
  have hc : (nm_names (nm_core st)).contains p.1 = true :=
    List.contains_iff_mem.2 (List.mem_map_of_mem hm)
  refine ⟨{ nm_FrameW.refl (nm_core st) with
    unbound := ?_, unused := nm_filter_one _ r p.1, resMono := ?_, resNew := ?_, resSound := ?_ }, rfl⟩
  · rw [List.filter_cons_of_neg (by simpa using hc)]
    simp [nm_core]
  · intro q hq; exact List.mem_cons_of_mem _ hq
  · intro o ho _
    rw [List.mem_singleton.1 ho]
    exact ⟨p.2, List.mem_cons_self⟩
  · intro hs q hq
    rcases List.mem_cons.1 hq with rfl | hq
    · exact hm
    · exact hs q hq

/-! ## Expressions -/

theorem nm_checkExpression : ∀ (e : Expr) (st st' : CState) (τ : String),
    checkExpression st e τ = .ok st' → nm_Frame (nm_core st) (nm_core st') (usesE e) := by
  intro e
  induction e with
  | nil => intro st st' τ h; cases h; exact nm_Frame.refl _
  | monetaryNil =>
      intro st st' τ h
      simp only [checkExpression] at h
      split at h <;> cases h
  | var r name =>
      intro st st' τ h
      simp only [checkExpression] at h
      cases hl : lookupDecl st name with
      | none =>
          simp only [hl] at h
          cases h
          exact nm_var_none r hl
      | some d =>
          simp only [hl] at h
          have hv := nm_var_some r hl
          split at h
          · cases h; exact hv
          · split at h
            · exact hv.trans0 (nm_assertHasType h)
            · cases h; exact hv
  | asset r s | account r s | str r s | number r s =>
      intro st st' τ h
      simp only [checkExpression] at h
      exact nm_assertHasType h
  | ratio r n d =>
      intro st st' τ h
      simp only [checkExpression] at h
      exact (nm_checkRatioLiteral st r d).trans0 (nm_assertHasType h)
  | monetary r a n iha ihn =>
      intro st st' τ h
      simp only [checkExpression] at h
      obtain ⟨st1, h1, h⟩ := nm_match_ok h
      obtain ⟨st2, h2, h⟩ := nm_match_ok h
      exact (nm_assertHasType h1).trans ((iha _ _ _ h2).trans (ihn _ _ _ h))
  | «infix» r op l rg ihl ihr =>
      intro st st' τ h
      simp only [checkExpression] at h
      split at h
      · obtain ⟨st1, h1, h⟩ := nm_match_ok h
        exact (ihl _ _ _ h1).trans (ihr _ _ _ h)
      · split at h
        all_goals
          obtain ⟨st1, h1, h⟩ := nm_match_ok h
          obtain ⟨st2, h2, h⟩ := nm_match_ok h
          have h12 := (ihl _ _ _ h1).trans (ihr _ _ _ h2)
        · exact h12.trans0 (nm_assertHasType h)
        · split at h
          · cases h; exact h12
          · exact h12.trans0 (nm_assertHasType h)

/-! ## Calls, sent values, allotment values, source helpers -/

theorem nm_checkExpressions : ∀ (l : List (Expr × String)) (st st' : CState),
    checkExpressions st l = .ok st' → nm_Frame (nm_core st) (nm_core st') (usesEs (l.map (·.1)))
  | [], st, st', h => by cases h; exact nm_Frame.refl _
  | (e, t) :: rest, st, st', h => by
      rw [checkExpressions] at h
      obtain ⟨st1, h1, h⟩ := nm_match_ok h
      exact (nm_checkExpression _ _ _ _ h1).trans (nm_checkExpressions rest _ _ h)

/-- whether the call counts as resolved, and to which builtin, is decided by what `fnRes` holds for
    its caller range -/
theorem nm_checkFnCallArity {st st' : CState} {fn : FnCall}
    (h : checkFnCallArity st fn = .ok st') :
    nm_Frame (nm_core st) (nm_core st')
      (usesEs (match st.fnRes.find? (fun p => p.1 == fn.callerRange) with
        | some p => callArgs true { fn with name := p.2 }
        | none => callArgs false fn)) := by
  unfold checkFnCallArity at h
  split at h
  · rename_i x bname hf
    obtain ⟨st2, h2, h⟩ := nm_match_ok h
    have hA : nm_Frame (nm_core st) (nm_core st2) [] := by
      split at h2
      · cases h2; exact nm_push _ _ _
      · split at h2
        · split at h2
          · split at h2 <;> cases h2
            exact nm_push _ _ _
          · cases h2; exact nm_Frame.refl _
        · cases h2; exact nm_Frame.refl _
    refine (hA.trans (nm_checkExpressions _ _ _ h)).cast ?_
    rw [hf, List.map_fst_zip (by rw [List.length_take]; omega)]
    rfl
  · rename_i hf
    obtain ⟨st1, h1, h⟩ := nm_match_ok h
    cases h
    refine ((nm_checkExpressions _ _ _ h1).trans0 (nm_push st1 _ _)).cast ?_
    simp only [hf, List.map_map, Function.comp_def, List.map_id']
    rfl

theorem nm_checkSentValue {st st' : CState} {sv : SentValue}
    (h : checkSentValue st sv = .ok st') : nm_Frame (nm_core st) (nm_core st') (usesSV sv) := by
  cases sv with
  | nil => cases h; exact nm_Frame.refl _
  | lit r m => exact nm_checkExpression _ _ _ _ h
  | all r a => exact nm_checkExpression _ _ _ _ h

theorem nm_foldl_push (f : Range → DiagKind) (hf : ∀ r, nm_notNameKind (f r)) :
    ∀ (l : List Range) (st : CState),
      nm_Frame (nm_core st) (nm_core (l.foldl (fun s r => s.push r (f r)) st)) []
  | [], _ => nm_Frame.refl _
  | r :: rest, st => (nm_push st r (f r) (hf r)).trans0 (nm_foldl_push f hf rest _)

theorem nm_checkHasBadAllotmentSum (st : CState) (sum : Rat) (rng : Range) (rem : Option Range)
    (vl : List Range) :
    nm_Frame (nm_core st) (nm_core (checkHasBadAllotmentSum st sum rng rem vl)) [] := by
  unfold checkHasBadAllotmentSum
  refine nm_Frame.ite ?_ (nm_Frame.ite (nm_Frame.refl _) (nm_Frame.ite ?_ (nm_push _ _ _)))
  · have h0 := nm_foldl_push (fun _ => .fixedPortionVariable 0) (fun _ => trivial) vl st
    split
    · exact h0.trans0 (nm_push _ _ _)
    · exact h0
  · split
    · exact nm_push _ _ _
    · exact nm_Frame.refl _

theorem nm_checkAllotValue {st st1 : CState} {acc acc1 : AllotAcc} {a : AllotVal} {isLast : Bool}
    {whole : Range} (h : checkAllotValue st acc a isLast whole = .ok (st1, acc1)) :
    nm_Frame (nm_core st) (nm_core st1) (usesAllot a) := by
  cases a with
  | nil => cases h; exact nm_Frame.refl _
  | remaining r =>
      simp only [checkAllotValue] at h
      split at h <;> cases h
      · exact nm_Frame.refl _
      · exact nm_push _ _ _
  | portion e =>
      cases e with
      | var r name =>
          simp only [checkAllotValue] at h
          obtain ⟨st2, h2, h⟩ := nm_match_ok h
          cases h
          exact nm_checkExpression _ _ _ _ h2
      | ratio r num den =>
          simp only [checkAllotValue] at h
          cases h
          exact nm_checkRatioLiteral st r den
      | _ => cases h; exact nm_Frame.refl _

theorem nm_sourceHead {st st' : CState} {src : Source} (h : sourceHead st src = .ok st') :
    nm_Frame (nm_core st) (nm_core st') [] := by
  unfold sourceHead at h
  split at h
  · split at h <;> cases h
    exact nm_push _ _ _
  · cases h; exact nm_Frame.refl _

theorem nm_checkSourceAccountLit (st : CState) (e : Expr) :
    nm_Frame (nm_core st) (nm_core (checkSourceAccountLit st e)) [] := by
  unfold checkSourceAccountLit
  split
  · extract_lets isWorld st3 st4
    have f3 : nm_Frame (nm_core st) (nm_core st3) [] :=
      nm_Frame.ite (nm_push _ _ _) (nm_Frame.ite (nm_Frame.refl _) (nm_Frame.refl _))
    have f4 : nm_Frame (nm_core st3) (nm_core st4) [] := nm_Frame.ite (nm_push _ _ _) (nm_Frame.refl _)
    exact f3.trans0 f4
  · exact nm_Frame.refl _

theorem nm_checkOverdraftHead {st st' : CState} {addr : Expr} {b : Option Expr}
    (h : checkOverdraftHead st addr b = .ok st') : nm_Frame (nm_core st) (nm_core st') [] := by
  unfold checkOverdraftHead at h
  extract_lets isWorld st1 st2 at h
  have f1 : nm_Frame (nm_core st) (nm_core st1) [] := by
    unfold st1
    split
    · exact nm_Frame.ite (nm_push _ _ _) (nm_Frame.refl _)
    · exact nm_Frame.refl _
  have f2 : nm_Frame (nm_core st1) (nm_core st2) [] := nm_Frame.ite (nm_Frame.refl _) (nm_Frame.refl _)
  refine (f1.trans0 f2).trans0 ?_
  split at h
  · split at h
    · exact Outcome.ok.inj h ▸ nm_push _ _ _
    · cases h
  · exact Outcome.ok.inj h ▸ nm_Frame.refl _

/-! ## Sources -/

mutual
theorem nm_checkSource : ∀ (s : Source) (st0 st' : CState),
    checkSource st0 s = .ok st' → nm_Frame (nm_core st0) (nm_core st') (usesS s)
  | .nil, st0, st', h => by
      rw [checkSource] at h; cases h; exact nm_Frame.refl _
  | .account e, st0, st', h => by
      rw [checkSource] at h
      obtain ⟨st, hh, h⟩ := nm_match_ok h
      obtain ⟨st1, h1, h⟩ := nm_match_ok h
      cases h
      exact (((nm_sourceHead hh).trans (nm_checkExpression _ _ _ _ h1)).trans0
        (nm_checkSourceAccountLit _ _)).cast (by simp [usesS])
  | .overdraft r addr bounded, st0, st', h => by
      rw [checkSource] at h
      obtain ⟨st, hh, h⟩ := nm_match_ok h
      obtain ⟨st4, h4, h⟩ := nm_match_ok h
      obtain ⟨st5, h5, h⟩ := nm_match_ok h
      have h05 := ((nm_sourceHead hh).trans0 (nm_checkOverdraftHead h4)).trans
        (nm_checkExpression _ _ _ _ h5)
      cases bounded with
      | none => cases h; exact h05.cast (by simp [usesS])
      | some b => exact (h05.trans (nm_checkExpression _ _ _ _ h)).cast (by simp [usesS])
  | .inorder r srcs, st0, st', h => by
      rw [checkSource] at h
      obtain ⟨st, hh, h⟩ := nm_match_ok h
      exact ((nm_sourceHead hh).trans (nm_checkSourceList srcs _ _ h)).cast (by simp [usesS])
  | .capped r cap src, st0, st', h => by
      rw [checkSource] at h
      obtain ⟨st, hh, h⟩ := nm_match_ok h
      obtain ⟨st1, h1, h⟩ := nm_match_ok h
      obtain ⟨st2, h2, h⟩ := nm_match_ok h
      cases h
      have e1 : nm_Frame (nm_core st) (nm_core st1) (usesE cap) := nm_checkExpression _ (enterCapped st) _ _ h1
      have e2 : nm_Frame (nm_core st1) (nm_core (exitCapped st2 st)) (usesS src) := nm_checkSource src st1 st2 h2
      exact ((nm_sourceHead hh).trans (e1.trans e2)).cast (by simp [usesS])
  | .allotment r items, st0, st', h => by
      rw [checkSource] at h
      obtain ⟨st, hh, h⟩ := nm_match_ok h
      obtain ⟨st2, acc, h2, h⟩ := nm_match_ok₂ h
      cases h
      exact ((((nm_sourceHead hh).trans0 (nm_Frame.ite (nm_push _ _ _) (nm_Frame.refl _))).trans
        (nm_checkSrcItems items _ _ _ _ _ h2)).trans0 (nm_checkHasBadAllotmentSum _ _ _ _ _)).cast (by simp [usesS])
theorem nm_checkSourceList : ∀ (ss : List Source) (st st' : CState),
    checkSourceList st ss = .ok st' → nm_Frame (nm_core st) (nm_core st') (usesSs ss)
  | [], st, st', h => by
      rw [checkSourceList] at h; cases h; exact nm_Frame.refl _
  | s :: ss, st, st', h => by
      rw [checkSourceList] at h
      obtain ⟨st1, h1, h⟩ := nm_match_ok h
      exact ((nm_checkSource s _ _ h1).trans (nm_checkSourceList ss _ _ h)).cast (by simp [usesSs])
theorem nm_checkSrcItems : ∀ (items : List SrcItem) (st st' : CState) (acc acc' : AllotAcc) (whole : Range),
    checkSrcItems st items acc whole = .ok (st', acc') → nm_Frame (nm_core st) (nm_core st') (usesSItems items)
  | [], st, st', acc, acc', whole, h => by
      rw [checkSrcItems] at h; cases h; exact nm_Frame.refl _
  | (.mk ir a src) :: rest, st, st', acc, acc', whole, h => by
      rw [checkSrcItems] at h
      obtain ⟨st1, acc1, h1, h⟩ := nm_match_ok₂ h
      obtain ⟨st2, h2, h⟩ := nm_match_ok h
      have e2 : nm_Frame (nm_core st1) (nm_core st2) (usesS src) := nm_checkSource src (enterCapped st1) _ h2
      have e3 : nm_Frame (nm_core st2) (nm_core st') (usesSItems rest) := nm_checkSrcItems rest (exitCapped st2 st1) _ _ _ _ h
      exact (((nm_checkAllotValue h1).trans e2).trans e3).cast (by simp [usesSItems])
end

/-! ## Destinations -/

mutual
theorem nm_checkDestination : ∀ (d : Dest) (st st' : CState),
    checkDestination st d = .ok st' → nm_Frame (nm_core st) (nm_core st') (usesD d)
  | .nil, st, st', h => by
      rw [checkDestination] at h; cases h; exact nm_Frame.refl _
  | .account e, st, st', h => by
      rw [checkDestination] at h
      exact (nm_checkExpression _ _ _ _ h).cast (by simp [usesD])
  | .inorder r clauses remaining, st, st', h => by
      rw [checkDestination] at h
      obtain ⟨st1, h1, h⟩ := nm_match_ok h
      exact ((nm_checkClauses clauses _ _ h1).trans (nm_checkKoD remaining _ _ h)).cast (by simp [usesD])
  | .allotment r items, st, st', h => by
      rw [checkDestination] at h
      obtain ⟨st1, acc, h1, h⟩ := nm_match_ok₂ h
      cases h
      exact ((nm_checkDstItems items _ _ _ _ _ h1).trans0
        (nm_checkHasBadAllotmentSum _ _ _ _ _)).cast (by simp [usesD])
theorem nm_checkKoD : ∀ (k : KoD) (st st' : CState),
    checkKoD st k = .ok st' → nm_Frame (nm_core st) (nm_core st') (usesK k)
  | .nil, st, st', h => by
      rw [checkKoD] at h; cases h; exact nm_Frame.refl _
  | .kept r, st, st', h => by
      rw [checkKoD] at h; cases h; exact nm_Frame.refl _
  | .to d, st, st', h => by
      rw [checkKoD] at h
      exact (nm_checkDestination d _ _ h).cast (by simp [usesK])
theorem nm_checkClauses : ∀ (cs : List DestClause) (st st' : CState),
    checkClauses st cs = .ok st' → nm_Frame (nm_core st) (nm_core st') (usesClauses cs)
  | [], st, st', h => by
      rw [checkClauses] at h; cases h; exact nm_Frame.refl _
  | (.mk cr cap to) :: rest, st, st', h => by
      rw [checkClauses] at h
      obtain ⟨st1, h1, h⟩ := nm_match_ok h
      obtain ⟨st2, h2, h⟩ := nm_match_ok h
      exact (((nm_checkExpression _ _ _ _ h1).trans (nm_checkKoD to _ _ h2)).trans
        (nm_checkClauses rest _ _ h)).cast (by simp [usesClauses])
theorem nm_checkDstItems : ∀ (items : List DestItem) (st st' : CState) (acc acc' : AllotAcc) (whole : Range),
    checkDstItems st items acc whole = .ok (st', acc') → nm_Frame (nm_core st) (nm_core st') (usesDItems items)
  | [], st, st', acc, acc', whole, h => by
      rw [checkDstItems] at h; cases h; exact nm_Frame.refl _
  | (.mk ir a to) :: rest, st, st', acc, acc', whole, h => by
      rw [checkDstItems] at h
      obtain ⟨st1, acc1, h1, h⟩ := nm_match_ok₂ h
      obtain ⟨st2, h2, h⟩ := nm_match_ok h
      exact (((nm_checkAllotValue h1).trans (nm_checkKoD to _ _ h2)).trans
        (nm_checkDstItems rest _ _ _ _ _ h)).cast (by simp [usesDItems])
end

/-! ## Fresh caller ranges

`checkFnCallArity` decides which arguments it visits by what `fnRes` holds for the caller range of
the call, so a stale entry of an earlier call with the same caller range would mislead it. -/

def nm_Fresh (l : List (Range × String)) (cs : List Range) : Prop :=
  cs.Nodup ∧ ∀ p ∈ l, p.1 ∉ cs

def nm_Grow (l l' : List (Range × String)) (cs : List Range) : Prop :=
  ∀ p ∈ l', p ∈ l ∨ p.1 ∈ cs

theorem nm_Grow.trans {l l' l'' : List (Range × String)} {cs ds : List Range}
    (h1 : nm_Grow l l' cs) (h2 : nm_Grow l' l'' ds) : nm_Grow l l'' (cs ++ ds) := by
  intro p hp
  rw [List.mem_append, ← or_assoc]
  exact (h2 p hp).imp_left (h1 p)

theorem nm_Fresh.left {l : List (Range × String)} {cs ds : List Range} (h : nm_Fresh l (cs ++ ds)) :
    nm_Fresh l cs :=
  ⟨(List.nodup_append.1 h.1).1, fun p hp hin => h.2 p hp (List.mem_append_left _ hin)⟩

theorem nm_Fresh.right {l l' : List (Range × String)} {cs ds : List Range}
    (h : nm_Fresh l (cs ++ ds)) (hg : nm_Grow l l' cs) : nm_Fresh l' ds := by
  obtain ⟨_, hnd, hdisj⟩ := List.nodup_append.1 h.1
  refine ⟨hnd, fun p hp hin => ?_⟩
  rcases hg p hp with hp | hp
  · exact h.2 p hp (List.mem_append_right _ hin)
  · exact hdisj _ hp _ hin rfl

/-- a run of the checker that may record resolutions for the call sites `cs`.  Which arguments of
    a call are visited depends on the table (`nm_checkFnCallArity`), so the weak frame holds for
    some list `vs` of occurrences, and `vs` is the expected `us` provided `cs` is fresh at the start. -/
structure nm_Run (a b : nm_Core) (cs : List Range) (us : List Occ) : Prop where
  frame : ∃ vs, nm_FrameW a b vs ∧ (nm_Fresh a.fnRes cs → vs = us)
  grow : nm_Grow a.fnRes b.fnRes cs

theorem nm_Frame.run {a b : nm_Core} {us : List Occ} (h : nm_Frame a b us) : nm_Run a b [] us :=
  ⟨⟨us, h.w, fun _ => rfl⟩, fun _ hp => Or.inl (h.fnRes ▸ hp)⟩

theorem nm_Run.trans {a b c : nm_Core} {cs ds : List Range} {us vs : List Occ}
    (h1 : nm_Run a b cs us) (h2 : nm_Run b c ds vs) : nm_Run a c (cs ++ ds) (us ++ vs) := by
  obtain ⟨⟨us', f1, e1⟩, g1⟩ := h1
  obtain ⟨⟨vs', f2, e2⟩, g2⟩ := h2
  refine ⟨⟨_, f1.trans f2, fun hf => ?_⟩, g1.trans g2⟩
  rw [e1 hf.left, e2 (hf.right g1)]

/-- a call checked right after its resolution was recorded (`b`) or not recorded (`¬ b`) -/
theorem nm_call {st0 st st' : CState} {fn : FnCall} (b : Bool)
    (h0 : nm_Frame (nm_core (if b then { st0 with fnRes := (fn.callerRange, fn.name) :: st0.fnRes } else st0))
      (nm_core st) [])
    (h : checkFnCallArity st fn = .ok st') :
    nm_Run (nm_core st0) (nm_core st') [fn.callerRange] (usesEs (callArgs b fn)) := by
  have e : nm_Frame _ _ (usesEs _) := h0.trans (nm_checkFnCallArity h)
  cases b with
  | false =>
      refine ⟨⟨_, e.w, fun hf => ?_⟩, fun p hp => Or.inl (e.fnRes ▸ hp)⟩
      have hn : st.fnRes.find? (fun p => p.1 == fn.callerRange) = none := by
        rw [show st.fnRes = st0.fnRes from h0.fnRes, List.find?_eq_none]
        intro p hp
        simpa using hf.2 p hp
      rw [hn]
  | true =>
      have hs : st.fnRes.find? (fun p => p.1 == fn.callerRange) = some (fn.callerRange, fn.name) := by
        rw [show st.fnRes = (fn.callerRange, fn.name) :: st0.fnRes from h0.fnRes]
        simp
      rw [hs] at e
      refine ⟨⟨_, e.w.congr_fnRes, fun _ => rfl⟩, fun p hp => ?_⟩
      rw [show (nm_core st').fnRes = (fn.callerRange, fn.name) :: st0.fnRes from e.fnRes] at hp
      rcases List.mem_cons.1 hp with rfl | hp
      · exact Or.inr List.mem_cons_self
      · exact Or.inl hp

theorem nm_call_unresolved {st st' : CState} {fn : FnCall}
    (hfresh : ∀ p ∈ st.fnRes, p.1 ≠ fn.callerRange) (h : checkFnCallArity st fn = .ok st') :
    nm_Frame (nm_core st) (nm_core st') (usesEs (callArgs false fn)) := by
  have e := nm_checkFnCallArity h
  rwa [List.find?_eq_none.2 (by simpa using hfresh)] at e

/-! ## Statements -/

theorem nm_checkStatement {st st' : CState} {s : Statement} (h : checkStatement st s = .ok st') :
    nm_Run (nm_core st) (nm_core st') (stmtCall s) (usesStmt s) := by
  unfold checkStatement at h
  cases s with
  | nil => cases h; exact (nm_Frame.refl _).run
  | fnCallNil => cases h
  | save r sv amount =>
      obtain ⟨st1, h1, h⟩ := nm_match_ok h
      exact ((nm_checkSentValue h1).trans (nm_checkExpression _ _ _ _ h)).run
  | send r sv src dst =>
      obtain ⟨st1, h1, h⟩ := nm_match_ok h
      obtain ⟨st2, h2, h⟩ := nm_match_ok h
      exact (((nm_checkSentValue h1).trans (nm_checkSource _ _ _ h2)).trans
        (nm_checkDestination _ _ _ h)).run
  | fnCall fn =>
      refine nm_call (isStatementBuiltin fn.name) ?_ h
      split <;> exact nm_Frame.refl _

theorem nm_checkStatements : ∀ (ss : List Statement) (st st' : CState),
    checkStatements st ss = .ok st' →
    nm_Run (nm_core st) (nm_core st') (ss.flatMap stmtCall) (usesStmts ss)
  | [], st, st', h => by cases h; exact (nm_Frame.refl _).run
  | s :: ss, st, st', h => by
      rw [checkStatements] at h
      obtain ⟨st1, h1, h⟩ := nm_match_ok h
      exact (nm_checkStatement h1).trans (nm_checkStatements ss _ _ h)

/-! ## Declarations -/

theorem nm_checkVarOrigin {st st' : CState} {fn : FnCall} {d : VarDecl}
    (h : checkVarOrigin st fn d = .ok st') :
    nm_Run (nm_core st) (nm_core st') [fn.callerRange] (usesEs (callArgs (isOriginBuiltin fn.name) fn)) := by
  unfold checkVarOrigin at h
  obtain ⟨st2, h2, h⟩ := nm_match_ok h
  refine nm_call (isOriginBuiltin fn.name) ?_ h
  split at h2
  · rw [if_pos ‹_›]
    split at h2
    · exact nm_assertHasType h2
    · cases h2; exact nm_Frame.refl _
  · rw [if_neg ‹_›]
    cases h2; exact nm_Frame.refl _

def nm_declare (a : nm_Core) (d : VarDecl) : nm_Core :=
  match d.name with
  | some (r, name) =>
      if (nm_names a).contains name then { a with diags := a.diags ++ [⟨r, .duplicateVariable name⟩] }
      else { a with declared := a.declared ++ [(name, d)], unused := a.unused ++ [(name, r)] }
  | none => a

def nm_DeclStep (a b : nm_Core) (d : VarDecl) (us : List Occ) : Prop :=
  ∃ mid, nm_FrameW a mid us ∧ b = nm_declare mid d

theorem nm_checkVarDecl {st st' : CState} {d : VarDecl} (h : checkVarDecl st d = .ok st') :
    ∃ mid, nm_Run (nm_core st) mid (declCall d) (usesOrigin d) ∧ nm_core st' = nm_declare mid d := by
  unfold checkVarDecl at h
  extract_lets st1 st2 at h
  obtain ⟨st3, h3, h⟩ := nm_match_ok h
  have e1 : nm_Frame (nm_core st) (nm_core st1) [] := by
    unfold st1
    split
    · exact nm_Frame.ite (nm_Frame.refl _) (nm_push _ _ _)
    · exact nm_Frame.refl _
  refine ⟨nm_core st3, ?_, ?_⟩
  · unfold declCall usesOrigin
    unfold st2 at h3
    cases ho : d.origin with
    | none => rw [ho] at h3; cases h3; exact e1.run
    | some fn => rw [ho] at h3; exact e1.run.trans (nm_checkVarOrigin h3)
  · unfold nm_declare
    cases hn : d.name with
    | none => rw [hn] at h; cases h; rfl
    | some p =>
        rw [hn] at h
        dsimp only at h ⊢
        rw [nm_names_contains]
        split at h <;> cases h
        · exact (if_pos ‹_›).symm
        · exact (if_neg ‹_›).symm

/-- `P` stands for the assumption that the caller ranges of the program are distinct
    (`nm_checkProgram`): `True` where it is assumed, `False` for `duplicate_exact`, which does
    without.  When `P` holds the origin of each declaration was visited exactly as the
    specification says. -/
inductive nm_Steps (P : Prop) : nm_Core → List VarDecl → nm_Core → Prop
  | nil (a : nm_Core) : nm_Steps P a [] a
  | cons {a b c : nm_Core} {d : VarDecl} {ds : List VarDecl} {us : List Occ} :
      nm_DeclStep a b d us → (P → us = usesOrigin d) → nm_Steps P b ds c → nm_Steps P a (d :: ds) c

theorem nm_declare_fnRes (a : nm_Core) (d : VarDecl) : (nm_declare a d).fnRes = a.fnRes := by
  unfold nm_declare
  split
  · split <;> rfl
  · rfl

theorem nm_checkVarDecls (P : Prop) : ∀ (ds : List VarDecl) (st st' : CState),
    (P → nm_Fresh st.fnRes (ds.flatMap declCall)) → checkVarDecls st ds = .ok st' →
    nm_Steps P (nm_core st) ds (nm_core st') ∧ nm_Grow st.fnRes st'.fnRes (ds.flatMap declCall)
  | [], st, st', _, h => by cases h; exact ⟨nm_Steps.nil _, fun _ hp => Or.inl hp⟩
  | d :: ds, st, st', hP, h => by
      rw [checkVarDecls] at h
      obtain ⟨st1, h1, h⟩ := nm_match_ok h
      obtain ⟨mid, ⟨⟨us, f, hu⟩, hg⟩, hd⟩ := nm_checkVarDecl h1
      have hg1 : nm_Grow st.fnRes st1.fnRes (declCall d) := by
        rw [show st1.fnRes = mid.fnRes from (congrArg nm_Core.fnRes hd).trans (nm_declare_fnRes mid d)]
        exact hg
      obtain ⟨hsteps, hg2⟩ := nm_checkVarDecls P ds st1 st' (fun hp => (hP hp).right hg1) h
      exact ⟨.cons ⟨mid, f, hd⟩ (fun hp => hu (hP hp).left) hsteps, hg1.trans hg2⟩

/-! ### What a declaration step does to each observable -/

theorem nm_declare_spec (a : nm_Core) (d : VarDecl) :
    nm_names (nm_declare a d) =
      (match declName d with
        | some n => if (nm_names a).contains n then nm_names a else nm_names a ++ [n]
        | none => nm_names a) ∧
    unboundDiags (nm_declare a d).diags = unboundDiags a.diags ∧
    duplicateDiags (nm_declare a d).diags = duplicateDiags a.diags ++
      (match d.name with
        | some (r, n) => if (nm_names a).contains n then [(r, n)] else []
        | none => []) ∧
    unusedDiags (nm_declare a d).diags = unusedDiags a.diags ∧
    (nm_declare a d).unused = a.unused ++
      (match d.name with
        | some (r, n) => if (nm_names a).contains n then [] else [(n, r)]
        | none => []) := by
  unfold nm_declare declName
  cases d.name with
  | none => simp
  | some p =>
      dsimp only [Option.map_some]
      split <;> simp [nm_names, unboundDiags, duplicateDiags, unusedDiags, List.filterMap_append]

theorem nm_DeclStep.names {a b : nm_Core} {d : VarDecl} {us : List Occ} (h : nm_DeclStep a b d us) :
    nm_names b =
      (match declName d with
        | some n => if (nm_names a).contains n then nm_names a else nm_names a ++ [n]
        | none => nm_names a) := by
  obtain ⟨mid, f, rfl⟩ := h
  rw [(nm_declare_spec mid d).1, f.names]

theorem nm_DeclStep.unbound {a b : nm_Core} {d : VarDecl} {us : List Occ} (h : nm_DeclStep a b d us) :
    unboundDiags b.diags = unboundDiags a.diags ++ us.filter (fun o => ! (nm_names a).contains o.2) := by
  obtain ⟨mid, f, rfl⟩ := h
  rw [(nm_declare_spec mid d).2.1, f.unbound]

theorem nm_DeclStep.dup {a b : nm_Core} {d : VarDecl} {us : List Occ} (h : nm_DeclStep a b d us) :
    duplicateDiags b.diags = duplicateDiags a.diags ++
      (match d.name with
        | some (r, n) => if (nm_names a).contains n then [(r, n)] else []
        | none => []) := by
  obtain ⟨mid, f, rfl⟩ := h
  rw [(nm_declare_spec mid d).2.2.1, f.dup, f.names]

theorem nm_DeclStep.unusedD {a b : nm_Core} {d : VarDecl} {us : List Occ} (h : nm_DeclStep a b d us) :
    unusedDiags b.diags = unusedDiags a.diags := by
  obtain ⟨mid, f, rfl⟩ := h
  rw [(nm_declare_spec mid d).2.2.2.1, f.unusedD]

theorem nm_DeclStep.unused {a b : nm_Core} {d : VarDecl} {us : List Occ} (h : nm_DeclStep a b d us) :
    b.unused = a.unused.filter (fun p => ! us.any (fun o => o.2 == p.1)) ++
      (match d.name with
        | some (r, n) => if (nm_names a).contains n then [] else [(n, r)]
        | none => []) := by
  obtain ⟨mid, f, rfl⟩ := h
  rw [(nm_declare_spec mid d).2.2.2.2, f.unused, f.names]

def nm_declInv (a : nm_Core) : Prop := ∀ q ∈ a.declared, declName q.2 = some q.1
def nm_resInv (a : nm_Core) : Prop := ∀ p ∈ a.varRes, (p.1.2, p.2) ∈ a.declared

theorem nm_DeclStep.inv {a b : nm_Core} {d : VarDecl} {us : List Occ} (h : nm_DeclStep a b d us)
    (h1 : nm_declInv a) (h2 : nm_resInv a) : nm_declInv b ∧ nm_resInv b := by
  obtain ⟨mid, f, rfl⟩ := h
  have h1' : nm_declInv mid := by unfold nm_declInv; rw [f.declared]; exact h1
  have h2' : nm_resInv mid := by unfold nm_resInv; rw [f.declared]; exact f.resSound h2
  unfold nm_declare
  split
  · rename_i r name hname
    split
    · exact ⟨h1', h2'⟩
    · refine ⟨fun q hq => ?_, fun p hp => List.mem_append_left _ (h2' p hp)⟩
      rcases List.mem_append.1 hq with hq | hq
      · exact h1' q hq
      · rw [List.mem_singleton.1 hq, declName, hname]; rfl
  · exact ⟨h1', h2'⟩

/-! ### The chain of declaration steps against the specification -/

theorem nm_Steps.dup {P : Prop} {a c : nm_Core} {ds : List VarDecl} (h : nm_Steps P a ds c) :
    duplicateDiags c.diags = duplicateDiags a.diags ++ duplicateInDecls (nm_names a) ds := by
  induction h with
  | nil a => simp [duplicateInDecls]
  | @cons a b c d ds us hstep _ _ ih =>
      rw [ih, hstep.dup, hstep.names]
      simp only [duplicateInDecls, declName]
      cases d.name with
      | none => simp
      | some p =>
          dsimp only [Option.map_some]
          split <;> simp

theorem nm_Steps.unbound {P : Prop} {a c : nm_Core} {ds : List VarDecl} (h : nm_Steps P a ds c) (hP : P) :
    unboundDiags c.diags = unboundDiags a.diags ++ unboundInDecls (nm_names a) ds := by
  induction h with
  | nil a => simp [unboundInDecls]
  | @cons a b c d ds us hstep hus _ ih =>
      rw [ih, hstep.unbound, hstep.names, hus hP]
      simp only [unboundInDecls, List.append_assoc]
      rfl

theorem nm_Steps.unusedD {P : Prop} {a c : nm_Core} {ds : List VarDecl} (h : nm_Steps P a ds c) :
    unusedDiags c.diags = unusedDiags a.diags := by
  induction h with
  | nil a => rfl
  | @cons a b c d ds us hstep _ _ ih => rw [ih, hstep.unusedD]

theorem nm_Steps.names {P : Prop} {a c : nm_Core} {ds : List VarDecl} (h : nm_Steps P a ds c) (n : String) :
    (nm_names c).contains n = ((nm_names a).contains n || (declNames ds).contains n) := by
  induction h with
  | nil a => simp [declNames]
  | @cons a b c d ds us hstep _ _ ih =>
      rw [ih, hstep.names, declNames]
      cases declName d with
      | none => simp
      | some m =>
          dsimp only
          split
          · by_cases hnm : n = m
            · subst hnm; simp_all
            · simp [hnm]
          · simp [Bool.or_assoc]

theorem nm_Steps.inv {P : Prop} {a c : nm_Core} {ds : List VarDecl} (h : nm_Steps P a ds c)
    (h1 : nm_declInv a) (h2 : nm_resInv a) : nm_declInv c ∧ nm_resInv c := by
  induction h with
  | nil a => exact ⟨h1, h2⟩
  | @cons a b c d ds us hstep _ _ ih =>
      obtain ⟨i1, i2⟩ := hstep.inv h1 h2
      exact ih i1 i2

/-- `unusedFrom` without the index bookkeeping: `T` = the uses after all declarations -/
def nm_unusedAux (seen : List String) : List VarDecl → List Occ → List Occ
  | [], _ => []
  | d :: ds, T =>
      match d.name with
      | some (r, n) =>
          if seen.contains n then nm_unusedAux seen ds T
          else (if (ds.flatMap usesOrigin ++ T).any (fun o => o.2 == n) then [] else [(r, n)]) ++
            nm_unusedAux (seen ++ [n]) ds T
      | none => nm_unusedAux seen ds T

theorem nm_unusedFrom_eq (prog : Program) : ∀ (ds : List VarDecl) (i : Nat) (seen : List String),
    prog.vars.drop i = ds →
    unusedFrom prog seen i ds = nm_unusedAux seen ds (usesStmts prog.stmts)
  | [], _, _, _ => rfl
  | d :: ds, i, seen, hdrop => by
      have hdrop' : prog.vars.drop (i + 1) = ds := by
        rw [← List.drop_drop, hdrop, List.drop_one, List.tail_cons]
      simp only [unusedFrom, nm_unusedAux, nm_unusedFrom_eq prog ds _ _ hdrop', usesAfter, hdrop']
      rfl

theorem nm_Steps.unused {P : Prop} {a c : nm_Core} {ds : List VarDecl} (h : nm_Steps P a ds c) (hP : P)
    (T : List Occ) :
    (c.unused.filter (nm_nu T)).map (fun p => (p.2, p.1)) =
      (a.unused.filter (nm_nu (ds.flatMap usesOrigin ++ T))).map (fun p => (p.2, p.1)) ++
        nm_unusedAux (nm_names a) ds T := by
  induction h with
  | nil a => simp [nm_unusedAux]
  | @cons a b c d ds us hstep hus _ ih =>
      rw [ih, hstep.names, hstep.unused, hus hP, nm_nu_fold, List.filter_append, nm_nu_append,
        List.map_append, List.append_assoc, List.flatMap_cons, List.append_assoc]
      congr 1
      simp only [nm_unusedAux, declName]
      cases d.name with
      | none => simp
      | some p =>
          obtain ⟨r, n⟩ := p
          by_cases hc : (nm_names a).contains n = true
          · simp only [hc, if_true, Option.map_some]; simp
          · simp only [hc, Option.map_some]
            by_cases hu : (ds.flatMap usesOrigin ++ T).any (fun o => o.2 == n) = true <;>
              simp only [hu, if_true] <;> simp [nm_nu, hu]

/-! ### The final unused warnings and the whole program -/

theorem nm_foldl_unusedVar : ∀ (l : List (String × Range)) (s : CState),
    (l.foldl (fun s p => s.push p.2 (.unusedVar p.1)) s).diags =
        s.diags ++ l.map (fun p => ⟨p.2, .unusedVar p.1⟩) ∧
    (l.foldl (fun s p => s.push p.2 (.unusedVar p.1)) s).varRes = s.varRes
  | [], s => by simp
  | p :: l, s => by
      obtain ⟨h1, h2⟩ := nm_foldl_unusedVar l (s.push p.2 (.unusedVar p.1))
      simp only [List.foldl_cons, h1, h2]
      simp [CState.push]

theorem nm_proj_unusedWarnings (l : List (String × Range)) :
    unboundDiags (l.map (fun p => (⟨p.2, .unusedVar p.1⟩ : Diag))) = [] ∧
    duplicateDiags (l.map (fun p => (⟨p.2, .unusedVar p.1⟩ : Diag))) = [] ∧
    unusedDiags (l.map (fun p => (⟨p.2, .unusedVar p.1⟩ : Diag))) = l.map (fun p => (p.2, p.1)) := by
  induction l with
  | nil => simp [unboundDiags, duplicateDiags, unusedDiags]
  | cons p l ih =>
      obtain ⟨h1, h2, h3⟩ := ih
      simp only [unboundDiags, duplicateDiags, unusedDiags] at h1 h2 h3 ⊢
      simp [h1, h2, h3]

theorem nm_checkProgram (P : Prop) {prog : Program} {pd : List Diag} {st : CState}
    (hP : P → (callRanges prog).Nodup) (h : checkProgram pd prog = .ok st) :
    ∃ st1 st2 us,
      nm_Steps P (nm_core { diags := pd }) prog.vars (nm_core st1) ∧
      nm_FrameW (nm_core st1) (nm_core st2) us ∧
      (P → us = usesStmts prog.stmts) ∧
      (unboundDiags st.diags = unboundDiags st2.diags ∧ duplicateDiags st.diags = duplicateDiags st2.diags ∧
        unusedDiags st.diags = unusedDiags st2.diags ++ st2.unused.map (fun p => (p.2, p.1))) ∧
      st.varRes = st2.varRes := by
  unfold checkProgram at h
  obtain ⟨st1, h1, h⟩ := nm_match_ok h
  obtain ⟨st2, h2, h⟩ := nm_match_ok h
  cases h
  have hf : P → nm_Fresh [] (callRanges prog) := fun hp => ⟨hP hp, fun _ hp' => nomatch hp'⟩
  obtain ⟨hsteps, hg⟩ := nm_checkVarDecls P prog.vars { diags := pd } st1 (fun hp => (hf hp).left) h1
  obtain ⟨⟨us, f, hu⟩, _⟩ := nm_checkStatements _ _ _ h2
  obtain ⟨e1, e2⟩ := nm_foldl_unusedVar st2.unused st2
  obtain ⟨w1, w2, w3⟩ := nm_proj_unusedWarnings st2.unused
  refine ⟨st1, st2, us, hsteps, f, fun hp => hu ((hf hp).right hg), ?_, e2⟩
  rw [e1]
  simp only [unboundDiags, duplicateDiags, unusedDiags, List.filterMap_append] at w1 w2 w3 ⊢
  rw [w1, w2, w3, List.append_nil, List.append_nil]
  exact ⟨rfl, rfl, rfl⟩

end NS
