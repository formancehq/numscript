/-
  Proofs/ReconcileLemmas.lean — `Reconcile` as a loop (property C07): its two steps,
  the invariant rule, and the unit pairing of its postings (`reconcile_rc_sumBy`).
-/
import Spec.Pairing

namespace NS

theorem forall_withhold {Q : String × Int → Prop} (hcut : ∀ n m m', Q (n, m) → 0 < m' → Q (n, m')) :
    ∀ (k : Int) (ss : Senders), (∀ x ∈ ss, Q x) → ∀ x ∈ withhold k ss, Q x
  | _, [], _ => by simp [withhold]
  | k, (n, m) :: t, hs => by
    rw [withhold]
    split
    · exact hs
    · rw [List.forall_mem_cons] at hs
      split
      · exact List.forall_mem_cons.2 ⟨hcut n m _ hs.1 (Int.sub_pos.2 ‹_›), hs.2⟩
      · exact forall_withhold hcut _ t hs.2

theorem withhold_pos {ss : Senders} (hs : ∀ p ∈ ss, 0 < p.2) (k : Int) : ∀ p ∈ withhold k ss, 0 < p.2 :=
  forall_withhold (fun _ _ _ _ h => h) k ss hs

def rc_carry (n : String) (m : Int) (t : List (String × Int)) : List (String × Int) :=
  if m = 0 then t else (n, m) :: t

theorem forall_rc_carry {Q : String × Int → Prop} {n : String} {m : Int} {t : List (String × Int)}
    (hm : m ≠ 0 → Q (n, m)) (ht : ∀ x ∈ t, Q x) : ∀ x ∈ rc_carry n m t, Q x := by
  unfold rc_carry
  split
  · exact ht
  · exact List.forall_mem_cons.2 ⟨hm ‹_›, ht⟩

theorem rc_carry_pos {n : String} {m a : Int} {t : List (String × Int)} (ha : a ≤ m)
    (ht : ∀ p ∈ t, 0 < p.2) : ∀ p ∈ rc_carry n (m - a) t, 0 < p.2 :=
  forall_rc_carry (fun _ => show 0 < m - a by omega) ht

/-- Invariant rule: what both steps of the loop preserve holds of the result. -/
theorem reconcileLoop_invariant (asset : String) (I : Senders → Receivers → List Posting → Prop)
    (kept : ∀ ss m rs acc, I ss ((KEPT_ADDR, m) :: rs) acc → I (withhold m ss) rs acc)
    (move : ∀ sn sm ss rn rm rs acc, rn ≠ KEPT_ADDR → I ((sn, sm) :: ss) ((rn, rm) :: rs) acc →
      I (rc_carry sn (sm - min sm rm) ss) (rc_carry rn (rm - min sm rm) rs)
        (addPosting acc sn rn (min sm rm) asset))
    (ss : Senders) (rs : Receivers) (acc : List Posting) (h : I ss rs acc) :
    ∃ ss' rs', (ss' = [] ∨ rs' = []) ∧ I ss' rs' (reconcileLoop asset ss rs acc) := by
  fun_induction reconcileLoop asset ss rs acc with
  | case1 ss acc => exact ⟨ss, [], .inr rfl, h⟩
  | case2 _ _ _ _ ih => exact ih (kept _ _ _ _ h)
  | case3 acc rn rm rs => exact ⟨[], _, .inl rfl, h⟩
  | case4 acc rn rs hk sn sm ss ih =>
    have := move _ _ _ _ _ _ _ hk h
    rw [Int.min_self, Int.sub_self] at this
    exact ih this
  | case5 acc rn rm rs hk sn sm ss hne hlt ih =>
    have := move _ _ _ _ _ _ _ hk h
    rw [Int.min_eq_left (Int.le_of_lt hlt), Int.sub_self, rc_carry, rc_carry, if_pos rfl,
      if_neg (by omega)] at this
    exact ih this
  | case6 acc rn rm rs hk sn sm ss hne hlt ih =>
    have := move _ _ _ _ _ _ _ hk h
    rw [Int.min_eq_right (by omega), Int.sub_self, rc_carry, rc_carry, if_pos rfl,
      if_neg (by omega)] at this
    exact ih this

theorem forall_addPosting {P : Posting → Prop} {acc : List Posting} {src dst : String} {amt : Int}
    {asset : String} (hacc : ∀ p ∈ acc, P p) (hnew : P ⟨src, dst, amt, asset⟩)
    (hmerge : ∀ q, P q → P { q with amount := q.amount + amt }) :
    ∀ p ∈ addPosting acc src dst amt asset, P p := by
  unfold addPosting
  split
  · rw [List.forall_mem_cons] at hacc
    split
    · exact List.forall_mem_cons.2 ⟨hmerge _ hacc.1, hacc.2⟩
    · exact List.forall_mem_cons.2 ⟨hnew, List.forall_mem_cons.2 hacc⟩
  · exact List.forall_mem_cons.2 ⟨hnew, hacc⟩

def rc_sumBy (g : String → String → Bool) (ps : List Posting) : Int :=
  ((ps.filter (fun p => g p.source p.destination)).map (·.amount)).sum

theorem rc_sumBy_reverse (g : String → String → Bool) (ps : List Posting) :
    rc_sumBy g ps.reverse = rc_sumBy g ps := by
  simp [rc_sumBy, List.filter_reverse, List.map_reverse, List.sum_reverse]

theorem rc_sumBy_cons (g : String → String → Bool) (p : Posting) (ps : List Posting) :
    rc_sumBy g (p :: ps) = (if g p.source p.destination then p.amount else 0) + rc_sumBy g ps := by
  cases h : g p.source p.destination <;> simp [rc_sumBy, h]

theorem rc_sumBy_append (g : String → String → Bool) (l1 l2 : List Posting) :
    rc_sumBy g (l1 ++ l2) = rc_sumBy g l1 + rc_sumBy g l2 := by
  simp [rc_sumBy]

theorem rc_sumBy_addPosting (g : String → String → Bool) (acc : List Posting) (src dst : String)
    (amt : Int) (asset : String) :
    rc_sumBy g (addPosting acc src dst amt asset) = rc_sumBy g acc + (if g src dst then amt else 0) := by
  unfold addPosting
  split
  · split
    · rename_i h
      rw [rc_sumBy_cons, rc_sumBy_cons, ← h.1, ← h.2]
      dsimp only
      split <;> omega
    · rw [rc_sumBy_cons, Int.add_comm]
  · rw [rc_sumBy_cons, Int.add_comm]

theorem reconcile_src_dst_asset (asset : String) (ss rs : List (String × Int)) :
    ∀ p ∈ Reconcile asset ss rs, p.source ∈ ss.map Prod.fst ∧ p.destination ∈ rs.map Prod.fst ∧
      p.destination ≠ KEPT_ADDR ∧ p.asset = asset := by
  obtain ⟨_, _, _, _, _, h⟩ := reconcileLoop_invariant asset
    (fun ss' rs' acc => (∀ x ∈ ss', x.1 ∈ ss.map Prod.fst) ∧ (∀ x ∈ rs', x.1 ∈ rs.map Prod.fst) ∧
      ∀ p ∈ acc, p.source ∈ ss.map Prod.fst ∧ p.destination ∈ rs.map Prod.fst ∧
        p.destination ≠ KEPT_ADDR ∧ p.asset = asset)
    (fun ss' m rs' acc ⟨h1, h2, h3⟩ =>
      ⟨forall_withhold (fun _ _ _ h _ => h) m ss' h1, (List.forall_mem_cons.1 h2).2, h3⟩)
    (fun sn sm ss' rn rm rs' acc hk ⟨h1, h2, h3⟩ => by
      rw [List.forall_mem_cons] at h1 h2
      exact ⟨forall_rc_carry (fun _ => h1.1) h1.2, forall_rc_carry (fun _ => h2.1) h2.2,
        forall_addPosting h3 ⟨h1.1, h2.1, hk, rfl⟩ (fun _ hq => hq)⟩)
    ss rs [] ⟨fun _ hx => List.mem_map_of_mem hx, fun _ hx => List.mem_map_of_mem hx, by simp⟩
  exact fun p hp => h p (List.mem_reverse.1 hp)

theorem noAdj_addPosting {acc : List Posting} (src dst : String) (amt : Int) (asset : String)
    (h : NoAdjacentSamePair acc) : NoAdjacentSamePair (addPosting acc src dst amt asset) := by
  unfold addPosting
  split
  · rename_i p rest
    split
    · cases rest with
      | nil => trivial
      | cons q t => exact h
    · rename_i hne
      exact ⟨fun hh => hne ⟨hh.1.symm, hh.2.symm⟩, h⟩
  · trivial

theorem noAdj_snoc {l : List Posting} {b a : Posting} (h : NoAdjacentSamePair (l ++ [b]))
    (hba : ¬ (b.source = a.source ∧ b.destination = a.destination)) :
    NoAdjacentSamePair (l ++ [b] ++ [a]) := by
  induction l with
  | nil => exact ⟨hba, trivial⟩
  | cons c t ih =>
    cases t with
    | nil => exact ⟨h.1, hba, trivial⟩
    | cons d t' => exact ⟨h.1, ih h.2⟩

theorem noAdj_reverse {l : List Posting} (h : NoAdjacentSamePair l) :
    NoAdjacentSamePair l.reverse := by
  induction l with
  | nil => exact trivial
  | cons a t ih =>
    cases t with
    | nil => exact trivial
    | cons b t' =>
      have h1 := ih h.2
      rw [List.reverse_cons] at h1
      rw [List.reverse_cons, List.reverse_cons]
      exact noAdj_snoc h1 (fun hh => h.1 ⟨hh.1.symm, hh.2.symm⟩)

theorem units_nil : units [] = [] := rfl

theorem units_cons (n : String) (m : Int) (t : List (String × Int)) :
    units ((n, m) :: t) = List.replicate m.toNat n ++ units t := by
  simp [units]

theorem units_rc_carry (n : String) (m a : Int) (t : List (String × Int)) (h0 : 0 ≤ a) (h1 : a ≤ m) :
    units ((n, m) :: t) = List.replicate a.toNat n ++ units (rc_carry n (m - a) t) := by
  rw [units_cons, rc_carry]
  split
  · rw [show m = a by omega]
  · rw [units_cons, ← List.append_assoc, List.replicate_append_replicate,
      ← Int.toNat_add h0 (Int.sub_nonneg.2 h1), show a + (m - a) = m by omega]

theorem units_withhold (k : Int) (ss : Senders) (hs : ∀ p ∈ ss, 0 < p.2) :
    units (withhold k ss) = (units ss).drop k.toNat := by
  induction ss generalizing k with
  | nil => rw [withhold, units_nil, List.drop_nil]
  | cons hd t ih =>
    obtain ⟨n, m⟩ := hd
    rw [List.forall_mem_cons] at hs
    have hm : 0 < m := hs.1
    rw [withhold]
    split
    · rw [Int.toNat_eq_zero.2 ‹_›, List.drop_zero]
    · have hk : 0 ≤ k := by omega
      rw [units_cons, List.drop_append, List.drop_replicate, List.length_replicate,
        ← Int.toNat_sub'' (Int.le_of_lt hm) hk, ← Int.toNat_sub'' hk (Int.le_of_lt hm)]
      split
      · rw [units_cons, Int.toNat_eq_zero.2 (show k - m ≤ 0 by omega), List.drop_zero]
      · rw [ih _ hs.2, Int.toNat_eq_zero.2 (show m - k ≤ 0 by omega)]
        rfl

theorem countP_zip_replicate_skip {α : Type} (q : α × String → Bool) (K : String)
    (hq : ∀ x, q (x, K) = false) (k : Nat) (X : List α) (Y : List String) :
    (X.zip (List.replicate k K ++ Y)).countP q = ((X.drop k).zip Y).countP q := by
  induction k generalizing X with
  | zero => simp
  | succ k ih =>
    cases X with
    | nil => simp
    | cons x X' => simp [List.replicate_succ, hq, ih]

/-- The postings are the in-order unit pairing with the pairs of `kept` left out, seen
    through any selection `g` by source and destination. -/
theorem reconcile_rc_sumBy (asset : String) (g : String → String → Bool) (ss rs : List (String × Int))
    (hs : ∀ p ∈ ss, 0 < p.2) (hr : ∀ p ∈ rs, 0 < p.2) :
    rc_sumBy g (Reconcile asset ss rs) =
      ((pairUnits ss rs).countP (fun u => u.2 ≠ KEPT_ADDR && g u.1 u.2) : Nat) := by
  generalize hq : (fun u : String × String => decide (u.2 ≠ KEPT_ADDR) && g u.1 u.2) = q
  obtain ⟨ss', rs', hnil, _, _, h⟩ := reconcileLoop_invariant asset
    (fun ss' rs' acc => (∀ p ∈ ss', 0 < p.2) ∧ (∀ p ∈ rs', 0 < p.2) ∧
      rc_sumBy g acc + ((pairUnits ss' rs').countP q : Nat) = ((pairUnits ss rs).countP q : Nat))
    (fun ss m rs acc ⟨h1, h2, h3⟩ => by
      refine ⟨withhold_pos h1 m, (List.forall_mem_cons.1 h2).2, ?_⟩
      rw [← h3, pairUnits, pairUnits, units_withhold m ss h1, units_cons,
        countP_zip_replicate_skip q KEPT_ADDR (fun x => by simp [← hq])])
    (fun sn sm ss rn rm rs acc hk ⟨h1, h2, h3⟩ => by
      rw [List.forall_mem_cons] at h1 h2
      have ha1 : min sm rm ≤ sm := Int.min_le_left sm rm
      have ha2 : min sm rm ≤ rm := Int.min_le_right sm rm
      have ha0 : 0 ≤ min sm rm := Int.le_min.2 ⟨Int.le_of_lt h1.1, Int.le_of_lt h2.1⟩
      refine ⟨rc_carry_pos ha1 h1.2, rc_carry_pos ha2 h2.2, ?_⟩
      rw [← h3, rc_sumBy_addPosting, pairUnits, pairUnits, units_rc_carry sn sm _ ss ha0 ha1,
        units_rc_carry rn rm _ rs ha0 ha2, List.zip_append (by simp), List.zip_replicate',
        List.countP_append,
        List.countP_replicate, ← hq]
      simp only [hk, ne_eq, not_false_eq_true, decide_true, Bool.true_and]
      split
      · rw [Int.natCast_add, Int.toNat_of_nonneg ha0, Int.add_assoc]
      · rw [Int.add_zero, Nat.zero_add])
    ss rs [] ⟨hs, hr, by simp [rc_sumBy]⟩
  have h0 : pairUnits ss' rs' = [] := by
    rcases hnil with rfl | rfl <;> simp [pairUnits, units_nil]
  rw [h0] at h
  rw [Reconcile, rc_sumBy_reverse, ← h]
  simp

end NS
