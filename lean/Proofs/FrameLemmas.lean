/-
  Proofs/FrameLemmas.lean — the wire format model (Model/Frame.lean): the decimal length
  is read back, a well-formed header line is accepted, and a successful read consumes a
  prefix of its input.
-/
import Model.Frame

namespace NS

theorem fr_isDigitByte_iff (b : UInt8) : isDigitByte b = true ↔ 48 ≤ b.toNat ∧ b.toNat ≤ 57 := by
  simp [isDigitByte, UInt8.le_iff_toNat_le]

/-- the byte `natBytes` makes of a digit character -/
theorem fr_byte_of_digit (c : Char) (h : c.isDigit = true) :
    (UInt8.ofNat c.toNat).toNat = c.toNat ∧ 48 ≤ c.toNat ∧ c.toNat ≤ 57 := by
  have : 48 ≤ c.toNat ∧ c.toNat ≤ 57 := by
    simpa [Char.isDigit, UInt32.le_iff_toNat_le] using h
  rw [UInt8.toNat_ofNat']
  omega

theorem fr_natBytes_ne_nil (n : Nat) : natBytes n ≠ [] := by
  simp [natBytes, Nat.toDigits_ne_nil]

theorem fr_natBytes_all_digit (n : Nat) : (natBytes n).all isDigitByte = true := by
  simp only [natBytes, List.all_map, List.all_eq_true, Function.comp_apply]
  intro c hc
  obtain ⟨e, h⟩ := fr_byte_of_digit c (Nat.isDigit_of_mem_toDigits (by decide) (by decide) hc)
  rw [fr_isDigitByte_iff, e]
  exact h

theorem fr_digitsValB_natBytes (n : Nat) : digitsValB (natBytes n) = n := by
  have key (l : List Char) (hl : ∀ c ∈ l, c.isDigit = true) (a : Nat) :
      List.foldl (fun acc b => acc * 10 + (b.toNat - 48)) a (l.map (fun c => UInt8.ofNat c.toNat))
        = Nat.ofDigitChars 10 l a := by
    induction l generalizing a with
    | nil => rfl
    | cons c t ih =>
      rw [List.map_cons, List.foldl_cons, ih (fun c hc => hl c (List.mem_cons_of_mem _ hc)),
        (fr_byte_of_digit c (hl c List.mem_cons_self)).1, Nat.ofDigitChars_cons, Nat.mul_comm]
      rfl
  rw [digitsValB, natBytes, key _ fun c hc => Nat.isDigit_of_mem_toDigits (by decide) (by decide) hc]
  exact Nat.ofDigitChars_ten_toDigits

theorem fr_digit_ne {b c : UInt8} (hb : isDigitByte b = true) (hc : isDigitByte c = false) :
    b ≠ c := by
  rintro rfl
  rw [hb] at hc
  cases hc

theorem fr_digit_not_blank {b : UInt8} (h : isDigitByte b = true) : isBlank b = false := by
  simp [isBlank, fr_digit_ne h (c := SP) rfl, fr_digit_ne h (c := TAB) rfl]

theorem fr_digit_isValueByte {b : UInt8} (h : isDigitByte b = true) : isValueByte b = true := by
  have h32 : (32 : UInt8) ≤ b := by
    rw [fr_isDigitByte_iff] at h
    rw [UInt8.le_iff_toNat_le]
    exact Nat.le_trans (by decide) h.1
  simp [isValueByte, h32, fr_digit_ne h (c := 127) rfl]

theorem fr_parseLength_digits (ds : Bytes) (hne : ds ≠ []) (hd : ∀ b ∈ ds, isDigitByte b = true) :
    parseLength ds = if digitsValB ds < 2^63 then some (digitsValB ds : Int) else none := by
  cases ds with
  | nil => exact absurd rfl hne
  | cons d t =>
    have hd0 := hd d List.mem_cons_self
    have h45 : d ≠ 45 := fr_digit_ne hd0 rfl
    have h43 : d ≠ 43 := fr_digit_ne hd0 rfl
    simp [parseLength, h45, h43, List.all_eq_true.mpr hd]

theorem fr_parseLength_natBytes (n : Nat) (h : n < 2^63) :
    parseLength (natBytes n) = some (n : Int) := by
  rw [fr_parseLength_digits _ (fr_natBytes_ne_nil n) (List.all_eq_true.mp (fr_natBytes_all_digit n)),
    fr_digitsValB_natBytes, if_pos h]

theorem fr_readLine_crlf (line rest : Bytes) (h : LF ∉ line) :
    readLine (line ++ CR :: LF :: rest) = some (line, rest) := by
  induction line with
  | nil => simp [readLine, CR, LF]
  | cons b t ih =>
    rw [List.mem_cons, not_or] at h
    simp only [List.cons_append, readLine, if_neg (Ne.symm h.1), ih h.2]
    cases t <;> simp [CR, LF]

theorem fr_cutColon (k v : Bytes) (h : COLON ∉ k) : cutColon (k ++ COLON :: v) = some (k, v) := by
  induction k with
  | nil => simp [cutColon]
  | cons b t ih =>
    rw [List.mem_cons, not_or] at h
    simp only [List.cons_append, cutColon, if_neg (Ne.symm h.1), ih h.2]

theorem fr_dropWhile_head {α : Type} (p : α → Bool) (l : List α)
    (h : ∀ x, l.head? = some x → p x = false) : l.dropWhile p = l := by
  cases l with
  | nil => rfl
  | cons a t => simp [h a rfl]

theorem fr_trimBlanks_id (l : Bytes) (h1 : ∀ x, l.head? = some x → isBlank x = false)
    (h2 : ∀ x, l.getLast? = some x → isBlank x = false) : trimBlanks l = l := by
  rw [trimBlanks, fr_dropWhile_head _ l h1, fr_dropWhile_head _ l.reverse (by simpa using h2),
    List.reverse_reverse]

/-- one well-formed header line that is not continued -/
theorem fr_readHeaders_line (fuel : Nat) (first : Bool) (input line rest k v : Bytes)
    (h0 : ∀ b, input.head? = some b → ¬ (first = true ∧ isBlank b = true))
    (hrl : readLine input = some (line, rest)) (hne : line ≠ [])
    (hcut : cutColon (trimBlanks line) = some (k, v))
    (hcont : rest.head?.map isBlank ≠ some true)
    (hk : k ≠ []) (hk2 : k.all (fun c => isTokenByte c || c = SP) = true)
    (hv : v.all isValueByte = true) :
    readHeaders (fuel + 1) first input =
      match readHeaders fuel false rest with
      | .ok hs r => .ok ((k, v.dropWhile isBlank) :: hs) r
      | .eof => .eof
      | .error e => .error e
      | .unsupported => .unsupported := by
  cases input with
  | nil => simp [readLine] at hrl
  | cons b0 t =>
    rw [readHeaders]
    simp only [hrl, hcut]
    rw [if_neg (h0 b0 rfl), if_neg hne, if_neg hcont, if_neg (by simp [hk, hk2]), if_neg (by simp [hv])]
    rfl

theorem fr_readHeaders_end (fuel : Nat) (R : Bytes) :
    readHeaders (fuel + 1) false (CR :: LF :: R) = .ok [] R := by
  simp [readHeaders, readLine, CR, LF]

/-- the header block `encodeFrame` writes, for any decimal numeral `D` -/
theorem fr_readHeaders_encode (fuel : Nat) (D R : Bytes) (hfuel : 2 ≤ fuel) (hne : D ≠ [])
    (hD : ∀ b ∈ D, isDigitByte b = true) :
    readHeaders fuel true (contentLengthPrefix ++ D ++ [CR, LF, CR, LF] ++ R)
      = .ok [(strBytes "Content-Length", D)] R := by
  obtain ⟨f, rfl⟩ := Nat.exists_eq_add_of_le' hfuel
  have hP : contentLengthPrefix = strBytes "Content-Length" ++ [COLON, SP] := by decide
  obtain ⟨d, t, rfl⟩ := List.exists_cons_of_ne_nil hne
  have hd := hD d List.mem_cons_self
  have e : contentLengthPrefix ++ d :: t ++ [CR, LF, CR, LF] ++ R
      = (contentLengthPrefix ++ d :: t) ++ CR :: LF :: (CR :: LF :: R) := by simp
  have hLF : LF ∉ contentLengthPrefix ++ d :: t := by
    rw [List.mem_append]
    rintro (h | h)
    · revert h; decide
    · exact fr_digit_ne (hD _ h) rfl rfl
  have htrim : trimBlanks (contentLengthPrefix ++ d :: t) = contentLengthPrefix ++ d :: t := by
    apply fr_trimBlanks_id
    · intro x hx; cases hx; decide
    · intro x hx
      rw [List.getLast?_append, List.getLast?_eq_some_getLast (List.cons_ne_nil d t),
        Option.some_or] at hx
      cases hx
      exact fr_digit_not_blank (hD _ (List.getLast_mem _))
  have hcut : cutColon (trimBlanks (contentLengthPrefix ++ d :: t))
      = some (strBytes "Content-Length", SP :: d :: t) := by
    rw [htrim, hP, List.append_assoc]
    exact fr_cutColon _ _ (by decide)
  have hfirst : ∀ b, ((contentLengthPrefix ++ d :: t) ++ CR :: LF :: (CR :: LF :: R)).head? = some b →
      ¬ (true = true ∧ isBlank b = true) := by
    intro b hb; cases hb; decide
  have hline : contentLengthPrefix ++ d :: t ≠ [] := by simp
  have hcont : (CR :: LF :: R).head?.map isBlank ≠ some true := by simp [isBlank, CR, SP, TAB]
  have hval : (SP :: d :: t).all isValueByte = true := by
    simp only [List.all_cons, Bool.and_eq_true, List.all_eq_true]
    exact ⟨by decide, fr_digit_isValueByte hd,
      fun x hx => fr_digit_isValueByte (hD x (List.mem_cons_of_mem _ hx))⟩
  rw [e, fr_readHeaders_line (f + 1) true _ _ _ _ _ hfirst (fr_readLine_crlf _ _ hLF) hline hcut hcont
    (by decide) (by decide) hval, fr_readHeaders_end]
  simp only
  rw [List.dropWhile_cons, if_pos (by decide), List.dropWhile_cons, fr_digit_not_blank hd]
  rfl

theorem fr_readLine_splits (input line rest : Bytes) (h : readLine input = some (line, rest)) :
    ∃ pre, input = pre ++ rest ∧ pre ≠ [] := by
  fun_induction readLine input generalizing line rest with
  | case1 => cases h
  | case2 t => cases h; exact ⟨[LF], rfl, by simp⟩
  | case3 b t => cases h; exact ⟨b :: t, by simp, by simp⟩
  | case4 b t _ l r hr _ ih | case5 b t _ l r hr _ ih =>
    cases h
    obtain ⟨pre, rfl, _⟩ := ih l r hr
    exact ⟨b :: pre, rfl, by simp⟩

theorem fr_readHeaders_splits (fuel : Nat) (first : Bool) (input : Bytes)
    (hs : List (Bytes × Bytes)) (rest : Bytes)
    (h : readHeaders fuel first input = .ok hs rest) :
    ∃ pre, input = pre ++ rest ∧ pre ≠ [] := by
  induction fuel generalizing first input hs with
  | zero => cases h
  | succ fuel ih =>
    cases input with
    | nil => cases h
    | cons b0 t0 =>
      rw [readHeaders] at h
      -- `.ok` comes from the empty line or from the rest of the block; every other branch fails
      repeat' split at h
      all_goals try cases h
      · exact fr_readLine_splits _ _ _ ‹_›
      · obtain ⟨pre, hp, hne⟩ := fr_readLine_splits _ _ _ ‹readLine _ = some _›
        obtain ⟨pre', hp', _⟩ := ih _ _ _ ‹readHeaders fuel false _ = _›
        exact ⟨pre ++ pre', by rw [hp, hp', List.append_assoc], by simp [hne]⟩

end NS
