/-
  What the parser guarantees about a tree besides completeness, as the checker-soundness
  theorems (C17) assume it and the parser theorems (C15, end to end) establish it: the shape of allotment
  clauses, and the caller ranges of function calls, pairwise distinct.
-/
import Spec.Typing

namespace NS

mutual
  def Source.ShapeOk : Source → Prop
    | .nil => True
    | .account _ => True
    | .overdraft _ _ _ => True
    | .inorder _ srcs => SourcesShapeOk srcs
    | .capped _ _ src => src.ShapeOk
    | .allotment _ items => SrcItemsShapeOk items
  def SourcesShapeOk : List Source → Prop
    | [] => True
    | s :: ss => s.ShapeOk ∧ SourcesShapeOk ss
  def SrcItemsShapeOk : List SrcItem → Prop
    | [] => True
    | (.mk _ a src) :: rest => a.ShapeOk ∧ src.ShapeOk ∧ SrcItemsShapeOk rest
end

mutual
  def Dest.ShapeOk : Dest → Prop
    | .nil => True
    | .account _ => True
    | .inorder _ clauses remaining => ClausesShapeOk clauses ∧ remaining.ShapeOk
    | .allotment _ items => DstItemsShapeOk items
  def KoD.ShapeOk : KoD → Prop
    | .nil => True
    | .kept _ => True
    | .to d => d.ShapeOk
  def ClausesShapeOk : List DestClause → Prop
    | [] => True
    | (.mk _ _ kd) :: rest => kd.ShapeOk ∧ ClausesShapeOk rest
  def DstItemsShapeOk : List DestItem → Prop
    | [] => True
    | (.mk _ a kd) :: rest => a.ShapeOk ∧ kd.ShapeOk ∧ DstItemsShapeOk rest
end

def Statement.ShapeOk : Statement → Prop
  | .send _ _ src dst => src.ShapeOk ∧ dst.ShapeOk
  | _ => True

def Statement.fnRanges : Statement → List Range
  | .fnCall fn => [fn.callerRange]
  | _ => []

def sd_stmtsFnRanges : List Statement → List Range
  | [] => []
  | s :: ss => s.fnRanges ++ sd_stmtsFnRanges ss

def VarDecl.fnRanges (d : VarDecl) : List Range :=
  match d.origin with
  | some fn => [fn.callerRange]
  | none => []

def sd_declsFnRanges : List VarDecl → List Range
  | [] => []
  | d :: ds => d.fnRanges ++ sd_declsFnRanges ds

def Program.fnRanges (p : Program) : List Range := sd_declsFnRanges p.vars ++ sd_stmtsFnRanges p.stmts

/-- allotment clauses are `remaining`, a portion literal or a variable, and two distinct function
    calls sit at distinct places of the text -/
structure Program.ParserInv (p : Program) : Prop where
  shape : ∀ s ∈ p.stmts, s.ShapeOk
  ranges : p.fnRanges.Nodup

end NS
