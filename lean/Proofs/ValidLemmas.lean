/-
  The checker model run forward on a script that is valid by the declarative rules of
  Spec/Valid.lean (C16a): every step succeeds and is quiet (`vd_Q`: a frame that adds no
  error-severity diagnostic) from a state whose declarations carry the types of the typing
  environment (`vd_Look`, `vd_EnvOk`).
-/
import Spec.Valid
import Proofs.SoundnessLemmas

namespace NS

/-! ## quiet steps: a frame that adds no error -/

def vd_Q (st st' : CState) : Prop := sd_Frame st st' ∧ errorCount st'.diags = errorCount st.diags

theorem vd_Q.refl (st : CState) : vd_Q st st := ⟨sd_Frame.refl _, rfl⟩
theorem vd_Q.trans {a b c : CState} (h1 : vd_Q a b) (h2 : vd_Q b c) : vd_Q a c :=
  ⟨h1.1.trans h2.1, h2.2.trans h1.2⟩
theorem vd_Q.of_eq {a b : CState} (h1 : b.diags = a.diags) (h2 : b.declared = a.declared)
    (h3 : b.fnRes = a.fnRes) (h4 : b.unboundedSend = a.unboundedSend) : vd_Q a b :=
  ⟨sd_Frame.of_eq h1 h2 h3 h4, by rw [h1]⟩
theorem vd_Q.push (st : CState) (r : Range) (k : DiagKind)
    (hk : k.severity ≠ 1 := by simp [DiagKind.severity, DiagKind.name, severityTable]) :
    vd_Q st (st.push r k) :=
  ⟨sd_Frame.push _ _ _, by rw [sd_errorCount_push]; simp [hk]⟩
theorem vd_Q.ite {a x y : CState} {c : Prop} [Decidable c] (hx : vd_Q a x) (hy : vd_Q a y) :
    vd_Q a (if c then x else y) := by
  split <;> assumption
theorem vd_Q.declared {a b : CState} (h : vd_Q a b) : b.declared = a.declared := h.1.declared
theorem vd_Q.fnRes {a b : CState} (h : vd_Q a b) : b.fnRes = a.fnRes := h.1.fnRes
theorem vd_Q.unboundedSend {a b : CState} (h : vd_Q a b) : b.unboundedSend = a.unboundedSend := h.1.2
theorem vd_Q.errorCount {a b : CState} (h : vd_Q a b) : errorCount b.diags = errorCount a.diags := h.2

theorem vd_Q.capped {st inner : CState} (h : vd_Q (enterCapped st) inner) :
    vd_Q st (exitCapped inner st) :=
  ⟨sd_capped_frame h.1, h.2⟩

/-! ## the checker state against the typing environment -/

def vd_Look (Γ : TyEnv) (st : CState) : Prop :=
  ∀ name, (lookupDecl st name).bind (fun d => d.type.map (·.2)) = Γ.lookup name

def vd_Allowed (Γ : TyEnv) : Prop := ∀ name ty, Γ.lookup name = some ty → isTypeAllowed ty = true

theorem vd_Look.congr {Γ : TyEnv} {st st' : CState} (h : vd_Look Γ st) (hd : st'.declared = st.declared) :
    vd_Look Γ st' := by
  intro name
  rw [sd_lookupDecl_congr hd]
  exact h name

theorem vd_Look.q {Γ : TyEnv} {st st' : CState} (h : vd_Look Γ st) (hq : vd_Q st st') : vd_Look Γ st' :=
  h.congr hq.declared

/-- the checker's state-passing match, run forward -/
theorem vd_bind {Γ : TyEnv} {st : CState} {o : Outcome CState} {k : CState → Outcome CState}
    (hl : vd_Look Γ st) (h1 : ∃ st1, o = .ok st1 ∧ vd_Q st st1)
    (h2 : ∀ st1, vd_Look Γ st1 → vd_Q st st1 → ∃ st', k st1 = .ok st' ∧ vd_Q st1 st') :
    ∃ st', (match o with
            | .panic s => Outcome.panic s
            | .err e => Outcome.err e
            | .ok st1 => k st1) = .ok st' ∧ vd_Q st st' := by
  obtain ⟨st1, rfl, q1⟩ := h1
  obtain ⟨st', h', q'⟩ := h2 st1 (hl.q q1) q1
  exact ⟨st', h', q1.trans q'⟩

theorem vd_lookup_some {Γ : TyEnv} {st : CState} {name τ : String} (hl : vd_Look Γ st)
    (h : Γ.lookup name = some τ) : ∃ d r, lookupDecl st name = some d ∧ d.type = some (r, τ) := by
  obtain ⟨d, hd, ht⟩ := Option.bind_eq_some_iff.1 ((hl name).trans h)
  obtain ⟨p, hp, rfl⟩ := Option.map_eq_some_iff.1 ht
  exact ⟨d, p.1, hd, hp⟩

theorem vd_assert_ok (st : CState) (lr : Option Range) {req act : String}
    (h : req = "any" ∨ req = act) : assertHasType st lr req act = .ok st :=
  if_pos h

theorem vd_inferType {Γ : TyEnv} {st : CState} (hl : vd_Look Γ st) (ha : vd_Allowed Γ) {e : Expr}
    {τ : String} (h : HasType Γ e τ) : inferType st e = τ := by
  induction h with
  | var r name τ hlk =>
    obtain ⟨d, rr, hd, ht⟩ := vd_lookup_some hl hlk
    simp only [inferType, hd, ht, ha name τ hlk, if_true]
  | infixNumber r op l rgt _ _ ihl _ | infixMonetary r op l rgt _ _ ihl _ => exact ihl
  | _ => rfl

theorem vd_hasType_rangeOpt {Γ : TyEnv} {e : Expr} {τ : String} (h : HasType Γ e τ) :
    e.rangeOpt = some e.range ∧ e ≠ .nil := by
  cases h <;> exact ⟨rfl, by simp⟩

theorem vd_fits_rangeOpt {Γ : TyEnv} {e : Expr} {τ : String} (h : Fits Γ e τ) :
    e.rangeOpt = some e.range ∧ e ≠ .nil := by
  unfold Fits at h
  split at h
  · obtain ⟨τ', h⟩ := h; exact vd_hasType_rangeOpt h
  · exact vd_hasType_rangeOpt h

theorem vd_checkExpr_infix {Γ : TyEnv} (ha : vd_Allowed Γ) {r : Range} {op : InfixOp} {l rgt : Expr}
    {τ : String} (hτ : τ = "number" ∨ τ = "monetary") (hl' : HasType Γ l τ)
    (ihl : ∀ (st : CState) (req : String), vd_Look Γ st → (req = "any" ∨ req = τ) →
      ∃ st', checkExpression st l req = .ok st' ∧ vd_Q st st')
    (ihr : ∀ (st : CState) (req : String), vd_Look Γ st → (req = "any" ∨ req = τ) →
      ∃ st', checkExpression st rgt req = .ok st' ∧ vd_Q st st')
    (st : CState) (req : String) (hl : vd_Look Γ st) (hreq : req = "any" ∨ req = τ) :
    ∃ st', checkExpression st (.infix r op l rgt) req = .ok st' ∧ vd_Q st st' := by
  obtain ⟨st1, h1, q1⟩ := ihl st τ hl (Or.inr rfl)
  obtain ⟨st2, h2, q2⟩ := ihr st1 τ (hl.q q1) (Or.inr rfl)
  rw [checkExpression]
  rcases hreq with rfl | rfl
  · rw [if_neg (by decide)]
    simp only [vd_inferType hl ha hl', hτ, if_true, h1, h2]
    exact ⟨st2, vd_assert_ok _ _ (Or.inl rfl), q1.trans q2⟩
  · simp only [hτ, if_true, h1]
    exact ⟨st2, h2, q1.trans q2⟩

theorem vd_checkExpr_ht {Γ : TyEnv} (ha : vd_Allowed Γ) {e : Expr} {τ : String} (h : HasType Γ e τ) :
    ∀ (st : CState) (req : String), vd_Look Γ st → (req = "any" ∨ req = τ) →
      ∃ st', checkExpression st e req = .ok st' ∧ vd_Q st st' := by
  induction h with
  | var r name τ hlk =>
    intro st req hl hreq
    obtain ⟨d, rr, hd, ht⟩ := vd_lookup_some hl hlk
    simp only [checkExpression, hd, ht, ha name τ hlk, if_true]
    exact ⟨_, vd_assert_ok _ _ hreq, vd_Q.of_eq rfl rfl rfl rfl⟩
  | asset r s | account r s | str r s | number r s =>
    intro st req hl hreq
    exact ⟨st, vd_assert_ok _ _ hreq, vd_Q.refl _⟩
  | ratio r num den hden =>
    intro st req hl hreq
    simp only [checkExpression, checkRatioLiteral, if_neg hden]
    exact ⟨st, vd_assert_ok _ _ hreq, vd_Q.refl _⟩
  | monetary r a n _ _ iha ihn =>
    intro st req hl hreq
    simp only [checkExpression, vd_assert_ok _ _ hreq]
    exact vd_bind hl (iha st "asset" hl (Or.inr rfl)) fun st2 hl2 _ => ihn st2 "number" hl2 (Or.inr rfl)
  | infixNumber r op l rgt hl' _ ihl ihr => exact vd_checkExpr_infix ha (Or.inl rfl) hl' ihl ihr
  | infixMonetary r op l rgt hl' _ ihl ihr => exact vd_checkExpr_infix ha (Or.inr rfl) hl' ihl ihr

theorem vd_checkExpr_fits {Γ : TyEnv} (ha : vd_Allowed Γ) {e : Expr} {τ : String} (h : Fits Γ e τ)
    (st : CState) (hl : vd_Look Γ st) : ∃ st', checkExpression st e τ = .ok st' ∧ vd_Q st st' := by
  unfold Fits at h
  split at h
  · rename_i hτ
    obtain ⟨τ', h⟩ := h
    exact vd_checkExpr_ht ha h st τ hl (Or.inl hτ)
  · exact vd_checkExpr_ht ha h st τ hl (Or.inr rfl)

/-! ## sources -/

theorem vd_sourceHead (st : CState) (src : Source) {r : Range} (hr : src.rangeOpt = some r) :
    ∃ st', sourceHead st src = .ok st' ∧ vd_Q st st' := by
  unfold sourceHead
  split
  · exact ⟨_, by rw [hr], vd_Q.push _ _ _⟩
  · exact ⟨_, rfl, vd_Q.refl _⟩

theorem vd_accountLit (st : CState) (e : Expr)
    (h : st.unboundedSend = true → isWorldLiteral e = false) :
    vd_Q st (checkSourceAccountLit st e) := by
  unfold checkSourceAccountLit
  split
  · rename_i r name
    extract_lets isWorld st3 st4
    have f3 : vd_Q st st3 := by
      unfold st3
      split
      · rename_i hc
        exact absurd hc.1 (by simpa [isWorldLiteral] using h hc.2)
      · exact vd_Q.ite (vd_Q.of_eq rfl rfl rfl rfl) (vd_Q.refl _)
    have f4 : vd_Q st3 st4 := vd_Q.ite (vd_Q.push _ _ _) (vd_Q.refl _)
    exact (f3.trans f4).trans (vd_Q.of_eq rfl rfl rfl rfl)
  · exact vd_Q.refl _

theorem vd_overdraftHead (st : CState) (addr : Expr) (b : Option Expr)
    (h : st.unboundedSend = true → b.isSome = true ∧ isWorldLiteral addr = false) :
    ∃ st', checkOverdraftHead st addr b = .ok st' ∧ vd_Q st st' := by
  unfold checkOverdraftHead
  extract_lets isWorld st1 st2
  have f1 : vd_Q st st1 := by
    unfold st1
    split
    · exact vd_Q.ite (vd_Q.push _ _ _) (vd_Q.refl _)
    · exact vd_Q.refl _
  have f2 : vd_Q st1 st2 := vd_Q.ite (vd_Q.of_eq rfl rfl rfl rfl) (vd_Q.refl _)
  have hw : isWorld = isWorldLiteral addr := by
    unfold isWorld
    cases addr <;> rfl
  split
  · rename_i hc
    exfalso
    obtain ⟨hb, hwl⟩ := h ((f1.trans f2).unboundedSend ▸ hc.1)
    rcases hc.2 with hn | hwt
    · cases b <;> simp at hb hn
    · rw [hw, hwl] at hwt; cases hwt
  · exact ⟨_, rfl, f1.trans f2⟩

theorem vd_foldl_push_q (f : Range → DiagKind) (hf : ∀ r, (f r).severity ≠ 1) (l : List Range)
    (st : CState) : vd_Q st (l.foldl (fun s r => s.push r (f r)) st) := by
  induction l generalizing st with
  | nil => exact vd_Q.refl _
  | cons a l ih => exact (vd_Q.push _ _ _ (hf a)).trans (ih _)

theorem vd_hasBad (st : CState) (sum : Rat) (rng : Range) (rem : Option Range) (vl : List Range)
    (h1 : sum ≤ 1) (h2 : sum < 1 → rem.isSome = true ∨ vl.length ≥ 1) :
    vd_Q st (checkHasBadAllotmentSum st sum rng rem vl) := by
  unfold checkHasBadAllotmentSum
  split
  · have f0 := vd_foldl_push_q (fun _ => .fixedPortionVariable 0)
      (fun _ => by simp [DiagKind.severity, DiagKind.name, severityTable]) vl st
    dsimp only
    split
    · exact f0.trans (vd_Q.push _ _ _)
    · exact f0
  · rename_i hne
    have hlt : sum < 1 := Rat.lt_of_le_of_ne h1 hne
    dsimp only
    split
    · exact vd_Q.refl _
    · rename_i hc1
      split
      · split
        · exact vd_Q.push _ _ _
        · exact vd_Q.refl _
      · rename_i hc2
        exfalso
        rcases h2 hlt with hr | hv
        · exact hc1 (Or.inl ⟨hlt, hr⟩)
        · by_cases h1' : vl.length = 1
          · exact hc2 ⟨hlt, h1'⟩
          · exact hc1 (Or.inr ⟨hlt, by omega⟩)

/-- what the allotment loop has accumulated, against the declarative summary of the clauses -/
def vd_AccRel (acc acc' : AllotAcc) (s : AllotSummary) : Prop :=
  acc'.sum = acc.sum + s.sum ∧ acc'.vars.length = acc.vars.length + s.vars ∧
    acc'.remaining.isSome = (acc.remaining.isSome || s.rem)

theorem vd_allotValue {Γ : TyEnv} (ha : vd_Allowed Γ) (st : CState) (hl : vd_Look Γ st)
    (acc : AllotAcc) (a : AllotVal) (t : List AllotVal) (w : Range) (hv : AllotValsOk Γ (a :: t)) :
    ∃ st1 acc1, checkAllotValue st acc a t.isEmpty w = .ok (st1, acc1) ∧ vd_Q st st1 ∧
      AllotValsOk Γ t ∧
      ∀ acc', vd_AccRel acc1 acc' (summarize t) → vd_AccRel acc acc' (summarize (a :: t)) := by
  cases a with
  | nil => simp [AllotValsOk] at hv
  | remaining r =>
    cases t with
    | cons b t' => simp [AllotValsOk] at hv
    | nil =>
      refine ⟨st, { acc with remaining := some r }, by simp [checkAllotValue], vd_Q.refl _,
        by simp [AllotValsOk], ?_⟩
      intro acc' ⟨e1, e2, e3⟩
      simp only [summarize] at *
      refine ⟨e1, e2, ?_⟩
      rw [e3]; simp
  | portion e =>
    cases e with
    | var r name =>
      simp only [AllotValsOk] at hv
      obtain ⟨hty, hrest⟩ := hv
      obtain ⟨st1, h1, q1⟩ := vd_checkExpr_ht ha hty st "portion" hl (Or.inr rfl)
      refine ⟨st1, { acc with vars := acc.vars ++ [r] }, by simp only [checkAllotValue, h1], q1,
        hrest, ?_⟩
      intro acc' ⟨e1, e2, e3⟩
      simp only [summarize] at *
      refine ⟨e1, ?_, e3⟩
      rw [e2]; simp; omega
    | ratio r num den =>
      simp only [AllotValsOk] at hv
      obtain ⟨hden, hrest⟩ := hv
      refine ⟨st, { acc with sum := acc.sum + mkRat num den }, by
        simp [checkAllotValue, checkRatioLiteral, hden], vd_Q.refl _, hrest, ?_⟩
      intro acc' ⟨e1, e2, e3⟩
      simp only [summarize] at *
      refine ⟨?_, e2, e3⟩
      rw [e1]; grind
    | _ => simp [AllotValsOk] at hv

theorem vd_allotSum_final {vals : List AllotVal} (hs : AllotSumOk vals) {acc : AllotAcc}
    (hr : vd_AccRel {} acc (summarize vals)) :
    acc.sum ≤ 1 ∧ (acc.sum < 1 → acc.remaining.isSome = true ∨ acc.vars.length ≥ 1) := by
  obtain ⟨e1, e2, e3⟩ := hr
  rw [e1, e2, e3, Rat.zero_add, List.length_nil, Nat.zero_add, Option.isSome_none, Bool.false_or]
  exact hs

mutual
  theorem vd_checkSource {Γ : TyEnv} (ha : vd_Allowed Γ) : ∀ (src : Source) (all : Bool) (st : CState),
      ValidSource Γ all src → st.unboundedSend = all → vd_Look Γ st →
      ∃ st', checkSource st src = .ok st' ∧ vd_Q st st'
    | .nil, all, st, hv, _, _ => by simp [ValidSource] at hv
    | .account e, all, st, hv, hu, hl => by
        simp only [ValidSource] at hv
        rw [checkSource]
        refine vd_bind hl (vd_sourceHead st _ (vd_fits_rangeOpt hv.1).1) fun st1 hl1 q1 =>
          vd_bind hl1 (vd_checkExpr_fits ha hv.1 st1 hl1) fun st2 _ q2 =>
            ⟨_, rfl, vd_accountLit _ _ fun hs => hv.2 ?_⟩
        rw [← hu, ← (q1.trans q2).unboundedSend, hs]
    | .overdraft r addr bounded, all, st, hv, hu, hl => by
        rw [checkSource]
        refine vd_bind hl (vd_sourceHead st _ (r := r) rfl) fun st1 hl1 q1 => ?_
        have hu1 : st1.unboundedSend = all := by rw [q1.unboundedSend, hu]
        cases bounded with
        | none =>
          simp only [ValidSource] at hv
          exact vd_bind hl1 (vd_overdraftHead st1 addr none fun hs => by rw [hu1, hv.2] at hs; cases hs)
            fun st2 hl2 _ => vd_bind hl2 (vd_checkExpr_fits ha hv.1 st2 hl2) fun st3 _ _ =>
              ⟨_, rfl, vd_Q.refl _⟩
        | some b =>
          simp only [ValidSource] at hv
          exact vd_bind hl1 (vd_overdraftHead st1 addr (some b) fun hs => ⟨rfl, hv.2.2 (hu1 ▸ hs)⟩)
            fun st2 hl2 _ => vd_bind hl2 (vd_checkExpr_fits ha hv.1 st2 hl2) fun st3 hl3 _ =>
              vd_checkExpr_fits ha hv.2.1 st3 hl3
    | .inorder r srcs, all, st, hv, hu, hl => by
        simp only [ValidSource] at hv
        rw [checkSource]
        exact vd_bind hl (vd_sourceHead st _ (r := r) rfl) fun st1 hl1 q1 =>
          vd_checkSourceList ha srcs all st1 hv (by rw [q1.unboundedSend, hu]) hl1
    | .capped r cap src, all, st, hv, hu, hl => by
        simp only [ValidSource] at hv
        rw [checkSource]
        refine vd_bind hl (vd_sourceHead st _ (r := r) rfl) fun st1 hl1 _ => ?_
        have hl1' : vd_Look Γ (enterCapped st1) := hl1.congr rfl
        obtain ⟨st2, h2, q2⟩ := vd_checkExpr_fits ha hv.1 _ hl1'
        obtain ⟨st3, h3, q3⟩ := vd_checkSource ha src false st2 hv.2 q2.unboundedSend (hl1'.q q2)
        simp only [h2, h3]
        exact ⟨_, rfl, (q2.trans q3).capped⟩
    | .allotment r items, all, st, hv, hu, hl => by
        simp only [ValidSource] at hv
        obtain ⟨hvals, hsum, hitems⟩ := hv
        obtain ⟨st1, h1, q1⟩ := vd_sourceHead st (.allotment r items) (r := r) rfl
        have q1' : vd_Q st1 (if st1.unboundedSend then st1.push r .noAllotmentInSendAll else st1) :=
          vd_Q.ite (vd_Q.push _ _ _) (vd_Q.refl _)
        obtain ⟨st2, acc, h2, q2, hrel⟩ := vd_checkSrcItems ha items _ {} r hvals hitems
          ((hl.q q1).q q1')
        simp only [checkSource, h1, h2]
        obtain ⟨b1, b2⟩ := vd_allotSum_final hsum hrel
        exact ⟨_, rfl, ((q1.trans q1').trans q2).trans (vd_hasBad _ _ _ _ _ b1 b2)⟩

  theorem vd_checkSourceList {Γ : TyEnv} (ha : vd_Allowed Γ) : ∀ (srcs : List Source) (all : Bool)
      (st : CState), ValidSources Γ all srcs → st.unboundedSend = all → vd_Look Γ st →
      ∃ st', checkSourceList st srcs = .ok st' ∧ vd_Q st st'
    | [], all, st, _, _, _ => ⟨st, by simp only [checkSourceList], vd_Q.refl _⟩
    | s :: ss, all, st, hv, hu, hl => by
        simp only [ValidSources] at hv
        rw [checkSourceList]
        exact vd_bind hl (vd_checkSource ha s all st hv.1 hu hl) fun st1 hl1 q1 =>
          vd_checkSourceList ha ss all st1 hv.2 (by rw [q1.unboundedSend, hu]) hl1

  theorem vd_checkSrcItems {Γ : TyEnv} (ha : vd_Allowed Γ) : ∀ (items : List SrcItem) (st : CState)
      (acc : AllotAcc) (w : Range), AllotValsOk Γ (items.map SrcItem.val) → ValidSrcItems Γ items →
      vd_Look Γ st →
      ∃ st' acc', checkSrcItems st items acc w = .ok (st', acc') ∧ vd_Q st st' ∧
        vd_AccRel acc acc' (summarize (items.map SrcItem.val))
    | [], st, acc, w, _, _, _ => ⟨st, acc, by simp only [checkSrcItems], vd_Q.refl _, by
        simp [vd_AccRel, summarize]⟩
    | (.mk ir a src) :: rest, st, acc, w, hvals, hitems, hl => by
        simp only [ValidSrcItems] at hitems
        simp only [List.map_cons, SrcItem.val] at hvals ⊢
        obtain ⟨st1, acc1, h1, q1, hrest, hstep⟩ := vd_allotValue ha st hl acc a _ w hvals
        have hl1 : vd_Look Γ (enterCapped st1) := (hl.q q1).congr rfl
        obtain ⟨st2, h2, q2⟩ := vd_checkSource ha src false (enterCapped st1) hitems.1 rfl hl1
        rw [List.isEmpty_map] at h1
        obtain ⟨st3, acc3, h3, q3, hrel⟩ := vd_checkSrcItems ha rest (exitCapped st2 st1) acc1 w hrest
          hitems.2 ((hl.q q1).q q2.capped)
        simp only [checkSrcItems, h1, h2]
        exact ⟨st3, acc3, h3, (q1.trans q2.capped).trans q3, hstep _ hrel⟩
end

/-! ## destinations -/

mutual
  theorem vd_checkDestination {Γ : TyEnv} (ha : vd_Allowed Γ) : ∀ (d : Dest) (st : CState),
      ValidDest Γ d → vd_Look Γ st → ∃ st', checkDestination st d = .ok st' ∧ vd_Q st st'
    | .nil, st, hv, _ => by simp [ValidDest] at hv
    | .account e, st, hv, hl => by
        simp only [ValidDest] at hv
        simp only [checkDestination]
        exact vd_checkExpr_fits ha hv st hl
    | .inorder r clauses remaining, st, hv, hl => by
        simp only [ValidDest] at hv
        rw [checkDestination]
        exact vd_bind hl (vd_checkClauses ha clauses st hv.1 hl) fun st1 hl1 _ =>
          vd_checkKoD ha remaining st1 hv.2 hl1
    | .allotment r items, st, hv, hl => by
        simp only [ValidDest] at hv
        obtain ⟨hvals, hsum, hitems⟩ := hv
        obtain ⟨st2, acc, h2, q2, hrel⟩ := vd_checkDstItems ha items st {} r hvals hitems hl
        simp only [checkDestination, h2]
        obtain ⟨b1, b2⟩ := vd_allotSum_final hsum hrel
        exact ⟨_, rfl, q2.trans (vd_hasBad _ _ _ _ _ b1 b2)⟩

  theorem vd_checkKoD {Γ : TyEnv} (ha : vd_Allowed Γ) : ∀ (k : KoD) (st : CState),
      ValidKoD Γ k → vd_Look Γ st → ∃ st', checkKoD st k = .ok st' ∧ vd_Q st st'
    | .nil, st, hv, _ => by simp [ValidKoD] at hv
    | .kept _, st, _, _ => ⟨st, by simp only [checkKoD], vd_Q.refl _⟩
    | .to d, st, hv, hl => by
        simp only [ValidKoD] at hv
        simp only [checkKoD]
        exact vd_checkDestination ha d st hv hl

  theorem vd_checkClauses {Γ : TyEnv} (ha : vd_Allowed Γ) : ∀ (cs : List DestClause) (st : CState),
      ValidClauses Γ cs → vd_Look Γ st → ∃ st', checkClauses st cs = .ok st' ∧ vd_Q st st'
    | [], st, _, _ => ⟨st, by simp only [checkClauses], vd_Q.refl _⟩
    | (.mk cr cap kd) :: rest, st, hv, hl => by
        simp only [ValidClauses] at hv
        rw [checkClauses]
        exact vd_bind hl (vd_checkExpr_fits ha hv.1 st hl) fun st1 hl1 _ =>
          vd_bind hl1 (vd_checkKoD ha kd st1 hv.2.1 hl1) fun st2 hl2 _ =>
            vd_checkClauses ha rest st2 hv.2.2 hl2

  theorem vd_checkDstItems {Γ : TyEnv} (ha : vd_Allowed Γ) : ∀ (items : List DestItem) (st : CState)
      (acc : AllotAcc) (w : Range), AllotValsOk Γ (items.map DestItem.val) → ValidDstItems Γ items →
      vd_Look Γ st →
      ∃ st' acc', checkDstItems st items acc w = .ok (st', acc') ∧ vd_Q st st' ∧
        vd_AccRel acc acc' (summarize (items.map DestItem.val))
    | [], st, acc, w, _, _, _ => ⟨st, acc, by simp only [checkDstItems], vd_Q.refl _, by
        simp [vd_AccRel, summarize]⟩
    | (.mk ir a kd) :: rest, st, acc, w, hvals, hitems, hl => by
        simp only [ValidDstItems] at hitems
        simp only [List.map_cons, DestItem.val] at hvals ⊢
        obtain ⟨st1, acc1, h1, q1, hrest, hstep⟩ := vd_allotValue ha st hl acc a _ w hvals
        obtain ⟨st2, h2, q2⟩ := vd_checkKoD ha kd st1 hitems.1 (hl.q q1)
        rw [List.isEmpty_map] at h1
        obtain ⟨st3, acc3, h3, q3, hrel⟩ := vd_checkDstItems ha rest st2 acc1 w hrest
          hitems.2 ((hl.q q1).q q2)
        simp only [checkDstItems, h1, h2]
        exact ⟨st3, acc3, h3, (q1.trans q2).trans q3, hstep _ hrel⟩
end

/-! ## function calls -/

theorem vd_fitsAll_length {Γ : TyEnv} : ∀ (es : List Expr) (sig : List String), FitsAll Γ es sig →
    es.length = sig.length
  | [], [], _ => rfl
  | [], _ :: _, h => by simp [FitsAll] at h
  | _ :: _, [], h => by simp [FitsAll] at h
  | e :: es, τ :: τs, h => by
      simp only [FitsAll] at h
      rw [List.length_cons, List.length_cons, vd_fitsAll_length es τs h.2]

theorem vd_fitsAll_ne_nil {Γ : TyEnv} : ∀ (es : List Expr) (sig : List String), FitsAll Γ es sig →
    ∀ e ∈ es, e ≠ .nil
  | [], _, _ => List.forall_mem_nil _
  | _ :: _, [], h => by simp [FitsAll] at h
  | e :: es, τ :: τs, h => by
      simp only [FitsAll] at h
      exact List.forall_mem_cons.2 ⟨(vd_fits_rangeOpt h.1).2, vd_fitsAll_ne_nil es τs h.2⟩

theorem vd_checkExpressions {Γ : TyEnv} (ha : vd_Allowed Γ) : ∀ (es : List Expr) (sig : List String)
    (st : CState), FitsAll Γ es sig → vd_Look Γ st →
    ∃ st', checkExpressions st (es.zip sig) = .ok st' ∧ vd_Q st st'
  | [], [], st, _, _ => ⟨st, by simp [checkExpressions], vd_Q.refl _⟩
  | [], _ :: _, _, h, _ => by simp [FitsAll] at h
  | _ :: _, [], _, h, _ => by simp [FitsAll] at h
  | e :: es, τ :: τs, st, h, hl => by
      simp only [FitsAll] at h
      rw [List.zip_cons_cons, checkExpressions]
      exact vd_bind hl (vd_checkExpr_fits ha h.1 st hl) fun st1 hl1 _ =>
        vd_checkExpressions ha es τs st1 h.2 hl1

/-- unlike `vd_Q`, the send-all flag and `fnRes` may change -/
def vd_NoNewError (st st' : CState) : Prop :=
  st'.declared = st.declared ∧ errorCount st'.diags = errorCount st.diags

theorem vd_NoNewError.trans {a b c : CState} (h1 : vd_NoNewError a b) (h2 : vd_NoNewError b c) : vd_NoNewError a c :=
  ⟨h2.1.trans h1.1, h2.2.trans h1.2⟩

/-- a call whose resolution was just recorded -/
theorem vd_checkFnCallArity {Γ : TyEnv} (ha : vd_Allowed Γ) (st : CState) (fn : FnCall)
    (hl : vd_Look Γ st) (hf : FitsAll Γ fn.args (builtinParams fn.name)) :
    ∃ st', checkFnCallArity { st with fnRes := (fn.callerRange, fn.name) :: st.fnRes } fn = .ok st' ∧
      vd_NoNewError st st' := by
  have hlen := vd_fitsAll_length _ _ hf
  obtain ⟨st', h', q'⟩ := vd_checkExpressions ha _ _
    { st with fnRes := (fn.callerRange, fn.name) :: st.fnRes } hf (hl.congr rfl)
  refine ⟨st', ?_, q'.declared, q'.errorCount⟩
  unfold checkFnCallArity
  simp only [List.find?_cons_of_pos, beq_self_eq_true]
  rw [List.filter_eq_self.2 fun e he => ?_]
  · simp only [hlen, Nat.lt_irrefl, if_false, gt_iff_lt]
    rw [← hlen, List.take_length]
    exact h'
  · have hne := vd_fitsAll_ne_nil _ _ hf e he
    cases e <;> first | rfl | exact absurd rfl hne

/-! ## statements -/

theorem vd_checkStatement {Γ : TyEnv} (ha : vd_Allowed Γ) (st : CState) (s : Statement)
    (hv : ValidStatement Γ s) (hl : vd_Look Γ st) :
    ∃ st', checkStatement st s = .ok st' ∧ vd_NoNewError st st' := by
  cases s with
  | nil => simp [ValidStatement] at hv
  | fnCallNil => simp [ValidStatement] at hv
  | save r sv amount =>
    cases sv with
    | nil => simp [ValidStatement] at hv
    | lit sr m | all sr a =>
      simp only [ValidStatement] at hv
      have hl0 : vd_Look Γ { st with emptied := [] } := hl.congr rfl
      obtain ⟨st1, h1, q1⟩ := vd_checkExpr_fits ha hv.1 _ hl0
      obtain ⟨st2, h2, q2⟩ := vd_checkExpr_fits ha hv.2 st1 (hl0.q q1)
      simp only [checkStatement, checkSentValue, h1]
      exact ⟨_, h2, (q1.trans q2).declared, (q1.trans q2).errorCount⟩
  | send r sv src dst =>
    -- the part common to `send [A *]` (`all = true`) and `send [A n]`
    have tail : ∀ (all : Bool) (e : Expr) (τ : String), Fits Γ e τ → ValidSource Γ all src →
        ValidDest Γ dst → ∃ st1 st2 st3,
          checkExpression { st with emptied := [], unboundedSend := all } e τ = .ok st1 ∧
          checkSource st1 src = .ok st2 ∧ checkDestination st2 dst = .ok st3 ∧ vd_NoNewError st st3 := by
      intro all e τ hm hsrc hdst
      have hl0 : vd_Look Γ { st with emptied := [], unboundedSend := all } := hl.congr rfl
      obtain ⟨st1, h1, q1⟩ := vd_checkExpr_fits ha hm _ hl0
      obtain ⟨st2, h2, q2⟩ := vd_checkSource ha src all st1 hsrc q1.unboundedSend (hl0.q q1)
      obtain ⟨st3, h3, q3⟩ := vd_checkDestination ha dst st2 hdst ((hl0.q q1).q q2)
      exact ⟨st1, st2, st3, h1, h2, h3, ((q1.trans q2).trans q3).declared,
        ((q1.trans q2).trans q3).errorCount⟩
    cases sv with
    | nil => simp [ValidStatement] at hv
    | lit sr m | all sr a =>
      simp only [ValidStatement] at hv
      obtain ⟨st1, st2, st3, h1, h2, h3, w⟩ := tail _ _ _ hv.1 hv.2.1 hv.2.2
      simp only [checkStatement, checkSentValue, h1, h2]
      exact ⟨st3, h3, w⟩
  | fnCall fn =>
    simp only [ValidStatement] at hv
    simp only [checkStatement, hv.1, if_true]
    exact vd_checkFnCallArity ha { st with emptied := [] } fn (hl.congr rfl) hv.2

theorem vd_checkStatements {Γ : TyEnv} (ha : vd_Allowed Γ) : ∀ (ss : List Statement) (st : CState),
    ValidStatements Γ ss → vd_Look Γ st → ∃ st', checkStatements st ss = .ok st' ∧ vd_NoNewError st st'
  | [], st, _, _ => ⟨st, rfl, rfl, rfl⟩
  | s :: ss, st, hv, hl => by
      simp only [ValidStatements] at hv
      obtain ⟨st1, h1, w1⟩ := vd_checkStatement ha { st with unboundedAccountInSend := false } s hv.1
        (hl.congr rfl)
      obtain ⟨st2, h2, w2⟩ := vd_checkStatements ha ss st1 hv.2 (hl.congr w1.1)
      simp only [checkStatements, h1]
      exact ⟨_, h2, w1.trans w2⟩

/-! ## declarations -/

structure vd_EnvOk (Γ : TyEnv) (st : CState) : Prop where
  look : vd_Look Γ st
  allowed : vd_Allowed Γ
  fresh : ∀ name, Γ.lookup name = none → st.declared.any (fun p => p.1 == name) = false

theorem vd_EnvOk.init (diags : List Diag) : vd_EnvOk [] { diags := diags } := by
  refine ⟨?_, ?_, ?_⟩
  · intro name; simp [lookupDecl, TyEnv.lookup]
  · intro name ty h; simp [TyEnv.lookup] at h
  · intro name _; rfl

/-- for `TyEnv.lookup` and `lookupDecl` -/
theorem vd_lookup_snoc {α : Type} (l : List (String × α)) (name : String) (x : α) (n : String) :
    ((l ++ [(name, x)]).find? (fun p => p.1 == n)).map (·.2) =
      ((l.find? (fun p => p.1 == n)).map (·.2)).or (if name == n then some x else none) := by
  rw [List.find?_append]
  cases l.find? (fun p => p.1 == n) with
  | some p => rfl
  | none => simp only [Option.none_or, List.find?_singleton, Option.map_none]; split <;> rfl

theorem vd_lookupDecl_none_iff (st : CState) (n : String) :
    lookupDecl st n = none ↔ st.declared.any (fun p => p.1 == n) = false := by
  unfold lookupDecl
  rw [Option.map_eq_none_iff, List.find?_eq_none, List.any_eq_false]

theorem vd_EnvOk.declare {Γ : TyEnv} {st st' : CState} (he : vd_EnvOk Γ st) {name ty : String}
    {d : VarDecl} {rt : Range} (ht : d.type = some (rt, ty)) (hall : isTypeAllowed ty = true)
    (hd : st'.declared = st.declared ++ [(name, d)]) : vd_EnvOk (Γ ++ [(name, ty)]) st' := by
  have hΓ : ∀ n, TyEnv.lookup (Γ ++ [(name, ty)]) n =
      (Γ.lookup n).or (if name == n then some ty else none) := vd_lookup_snoc Γ name ty
  have hst : ∀ n, lookupDecl st' n = (lookupDecl st n).or (if name == n then some d else none) := by
    intro n
    unfold lookupDecl
    rw [hd, vd_lookup_snoc]
  refine ⟨fun n => ?_, fun n t h => ?_, fun n h => ?_⟩
  · rw [hst, hΓ, ← he.look n]
    cases hld : lookupDecl st n with
    | none => simp only [Option.none_or, Option.bind_none]; split <;> simp [ht]
    | some d0 =>
      cases hg : Γ.lookup n with
      | none => rw [(vd_lookupDecl_none_iff st n).2 (he.fresh n hg)] at hld; cases hld
      | some τ =>
        have hk := he.look n
        rw [hld, hg] at hk
        rw [Option.some_or, hk]
        rfl
  · rw [hΓ] at h
    cases hg : Γ.lookup n with
    | some τ =>
      rw [hg] at h
      exact he.allowed n t (hg.trans h)
    | none =>
      rw [hg, Option.none_or] at h
      split at h <;> cases h
      exact hall
  · rw [hΓ] at h
    cases hg : Γ.lookup n with
    | some τ => rw [hg] at h; cases h
    | none =>
      rw [hg, Option.none_or] at h
      have hne : (name == n) = false := by
        cases hb : (name == n) with
        | false => rfl
        | true => rw [hb] at h; cases h
      rw [hd, List.any_append, he.fresh n hg]
      simp [hne]

theorem vd_EnvOk.congr {Γ : TyEnv} {st st' : CState} (he : vd_EnvOk Γ st)
    (hd : st'.declared = st.declared) : vd_EnvOk Γ st' :=
  ⟨he.look.congr hd, he.allowed, by intro n h; rw [hd]; exact he.fresh n h⟩

theorem vd_checkVarDecl {Γ : TyEnv} {st : CState} (he : vd_EnvOk Γ st) (d : VarDecl)
    {rn rt : Range} {name ty : String}
    (hn : d.name = some (rn, name)) (ht : d.type = some (rt, ty))
    (hall : isTypeAllowed ty = true) (hfresh : Γ.lookup name = none)
    (ho : ∀ fn, d.origin = some fn → isOriginBuiltin fn.name = true ∧
      FitsAll Γ fn.args (builtinParams fn.name) ∧
      (builtinReturn fn.name = "any" ∨ builtinReturn fn.name = ty)) :
    ∃ st', checkVarDecl st d = .ok st' ∧ errorCount st'.diags = errorCount st.diags ∧
      vd_EnvOk (Γ ++ [(name, ty)]) st' := by
  unfold checkVarDecl
  simp only [ht, hall, if_true, hn]
  cases hor : d.origin with
  | none =>
    simp only [he.fresh name hfresh]
    exact ⟨_, rfl, rfl, he.declare ht hall rfl⟩
  | some fn =>
    obtain ⟨hob, hf, hr⟩ := ho fn hor
    obtain ⟨st3, h3, w3⟩ := vd_checkFnCallArity he.allowed st fn he.look hf
    have he3 := he.congr w3.1
    simp only [checkVarOrigin, hob, if_true, ht, hn, vd_assert_ok _ _ hr, h3, he3.fresh name hfresh]
    exact ⟨_, rfl, w3.2, he3.declare ht hall rfl⟩

theorem vd_checkVarDecls : ∀ (ds : List VarDecl) (Γ : TyEnv) (st : CState), ValidDecls Γ ds →
    vd_EnvOk Γ st →
    ∃ st', checkVarDecls st ds = .ok st' ∧ errorCount st'.diags = errorCount st.diags ∧
      vd_EnvOk (Γ ++ envOfDecls ds) st'
  | [], Γ, st, _, he => ⟨st, rfl, rfl, by simpa [envOfDecls] using he⟩
  | d :: ds, Γ, st, hv, he => by
      simp only [ValidDecls] at hv
      split at hv
      · rename_i rn name rt ty hn ht
        obtain ⟨hall, hfresh, ho, hrest⟩ := hv
        obtain ⟨st1, h1, e1, he1⟩ := vd_checkVarDecl he d hn ht hall hfresh (by
          intro fn hfn
          rw [hfn] at ho
          exact ho)
        obtain ⟨st2, h2, e2, he2⟩ := vd_checkVarDecls ds _ st1 hrest he1
        simp only [checkVarDecls, h1]
        refine ⟨st2, h2, e2.trans e1, ?_⟩
        simp only [envOfDecls, hn, ht]
        rw [← List.append_assoc]
        exact he2
      · exact hv.elim

end NS
