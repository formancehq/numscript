/-
  For property C18: on benign partial syntax trees the static checker, the symbol listing, hover
  and go-to-definition never reach a panic site.  What checking an expression, a source or a
  destination does to the state (`an_Frame`) is also what Proofs/SoundnessLemmas.lean starts from.
-/
import Spec.Benign

namespace NS

theorem ite_of {α} {P : α → Prop} {c : Prop} [Decidable c] {a b : α} (ha : P a) (hb : P b) :
    P (if c then a else b) := by
  split <;> assumption

def an_IsOk {α : Type} (o : Outcome α) : Prop := ∃ a, o = .ok a

theorem an_isOk_ok {α} {a : α} : an_IsOk (Outcome.ok a) := ⟨a, rfl⟩

theorem an_isOk_ne_panic {α} {o : Outcome α} (h : an_IsOk o) (s : String) : o ≠ .panic s := by
  obtain ⟨a, rfl⟩ := h
  nofun

/- The model writes its binds out as a `match` on the outcome.  The three shapes it uses get one
   lemma each, stated with the same `match` at the model's own types: the matcher a statement
   produces unifies with the model's only when both take the same parameters, so a version
   polymorphic in the type of `o` would never apply. -/

theorem an_isOk_bind {β} {o : Outcome CState} {f : CState → Outcome β} (ho : an_IsOk o)
    (hf : ∀ a, an_IsOk (f a)) :
    an_IsOk (match o with | .panic s => .panic s | .err e => .err e | .ok x => f x) := by
  obtain ⟨a, rfl⟩ := ho
  exact hf a

theorem an_isOk_bind_pair {β} {o : Outcome (CState × AllotAcc)} {f : CState → AllotAcc → Outcome β}
    (ho : an_IsOk o) (hf : ∀ a b, an_IsOk (f a b)) :
    an_IsOk (match o with | .panic s => .panic s | .err e => .err e | .ok (x, y) => f x y) := by
  obtain ⟨⟨a, b⟩, rfl⟩ := ho
  exact hf a b

theorem an_isOk_orElse {o k : Outcome (Option Hover)} (ho : an_IsOk o) (hk : an_IsOk k) :
    an_IsOk (match o with
      | .panic s => .panic s | .err e => .err e | .ok (some h) => .ok (some h) | .ok none => k) := by
  obtain ⟨_ | a, rfl⟩ := ho
  · exact hk
  · exact an_isOk_ok

theorem an_rangeOpt_isSome {e : Expr} (hn : e ≠ .nil) (hb : e.Benign) : ∃ r, e.rangeOpt = some r := by
  cases e <;> simp_all [Expr.rangeOpt, Expr.Benign]

theorem an_hoverOnExpression_ok (pos : Pos) : ∀ (e : Expr), e.Benign → an_IsOk (hoverOnExpression e pos)
  | .monetaryNil, hb => hb.elim
  | .monetary _ a n, hb =>
      ite_of an_isOk_ok
        (an_isOk_orElse (an_hoverOnExpression_ok pos n hb.2) (an_hoverOnExpression_ok pos a hb.1))
  | .infix _ _ l r, hb =>
      ite_of an_isOk_ok
        (an_isOk_orElse (an_hoverOnExpression_ok pos l hb.1) (an_hoverOnExpression_ok pos r hb.2))
  | .nil, _ | .var .., _ | .asset .., _ | .account .., _ | .str .., _ | .number .., _ | .ratio .., _ =>
      an_isOk_ok

theorem an_hoverOnExprs_ok (pos : Pos) : ∀ (es : List Expr), ExprsBenign es → an_IsOk (hoverOnExprs es pos)
  | [], _ => an_isOk_ok
  | e :: es, hb => an_isOk_orElse (an_hoverOnExpression_ok pos e hb.1) (an_hoverOnExprs_ok pos es hb.2)

theorem an_hoverOnFnCall_ok (pos : Pos) (fn : FnCall) (hb : ExprsBenign fn.args) :
    an_IsOk (hoverOnFnCall fn pos) :=
  ite_of an_isOk_ok (ite_of an_isOk_ok (an_hoverOnExprs_ok pos fn.args hb))

theorem an_hoverOnSentValue_ok (pos : Pos) : ∀ (sv : SentValue), sv.Benign → an_IsOk (hoverOnSentValue sv pos)
  | .nil, _ => an_isOk_ok
  | .lit _ m, hb => an_hoverOnExpression_ok pos m hb
  | .all _ a, hb => an_hoverOnExpression_ok pos a hb

theorem an_hoverOnAllot_ok (pos : Pos) : ∀ (a : AllotVal), a.Benign → an_IsOk (hoverOnAllot a pos)
  | .nil, _ | .remaining _, _ => an_isOk_ok
  | .portion e, hb => an_hoverOnExpression_ok pos e hb

/-- the `account` case of `hoverOnSource` and of `hoverOnDestination` -/
theorem an_hoverOnAccount_ok (pos : Pos) {e : Expr} (hn : e ≠ .nil) (hb : e.Benign) {s : String} :
    an_IsOk (match e.rangeOpt with
      | none => .panic s
      | some r => if r.contains pos then hoverOnExpression e pos else .ok none) := by
  obtain ⟨r, hr⟩ := an_rangeOpt_isSome hn hb
  rw [hr]
  exact ite_of (an_hoverOnExpression_ok pos e hb) an_isOk_ok

mutual
  theorem an_hoverOnSource_ok (pos : Pos) : ∀ (s : Source), s.Benign → an_IsOk (hoverOnSource s pos)
    | .nil, _ => an_isOk_ok
    | .account _, hb => an_hoverOnAccount_ok pos hb.1 hb.2
    | .overdraft _ addr none, hb =>
        ite_of an_isOk_ok (an_isOk_orElse (an_hoverOnExpression_ok pos addr hb.2) an_isOk_ok)
    | .overdraft _ addr (some b), hb =>
        ite_of an_isOk_ok
          (an_isOk_orElse (an_hoverOnExpression_ok pos addr hb.2.1) (an_hoverOnExpression_ok pos b hb.2.2))
    | .inorder _ srcs, hb => ite_of (an_hoverOnSourceList_ok pos srcs hb) an_isOk_ok
    | .capped _ cap src, hb =>
        ite_of an_isOk_ok
          (an_isOk_orElse (an_hoverOnExpression_ok pos cap hb.1) (an_hoverOnSource_ok pos src hb.2))
    | .allotment _ items, hb => ite_of (an_hoverOnSrcItems_ok pos items hb) an_isOk_ok
  theorem an_hoverOnSourceList_ok (pos : Pos) : ∀ (ss : List Source), SourcesBenign ss →
      an_IsOk (hoverOnSourceList ss pos)
    | [], _ => an_isOk_ok
    | s :: ss, hb => an_isOk_orElse (an_hoverOnSource_ok pos s hb.1) (an_hoverOnSourceList_ok pos ss hb.2)
  theorem an_hoverOnSrcItems_ok (pos : Pos) : ∀ (items : List SrcItem), SrcItemsBenign items →
      an_IsOk (hoverOnSrcItems items pos)
    | [], _ => an_isOk_ok
    | (.mk _ a src) :: rest, hb =>
        have hrest := an_hoverOnSrcItems_ok pos rest hb.2.2
        ite_of hrest (an_isOk_orElse (an_hoverOnAllot_ok pos a hb.1)
          (an_isOk_orElse (an_hoverOnSource_ok pos src hb.2.1) hrest))
end

mutual
  theorem an_hoverOnDestination_ok (pos : Pos) : ∀ (d : Dest), d.Benign → an_IsOk (hoverOnDestination d pos)
    | .nil, _ => an_isOk_ok
    | .account _, hb => an_hoverOnAccount_ok pos hb.1 hb.2
    | .inorder _ clauses remaining, hb =>
        ite_of an_isOk_ok
          (an_isOk_orElse (an_hoverOnClauses_ok pos clauses hb.1) (an_hoverOnKoD_ok pos remaining hb.2))
    | .allotment _ items, hb => ite_of (an_hoverOnDstItems_ok pos items hb) an_isOk_ok
  theorem an_hoverOnKoD_ok (pos : Pos) : ∀ (k : KoD), k.Benign → an_IsOk (hoverOnKoD k pos)
    | .nil, _ | .kept _, _ => an_isOk_ok
    | .to d, hb => an_hoverOnDestination_ok pos d hb
  theorem an_hoverOnClauses_ok (pos : Pos) : ∀ (cs : List DestClause), ClausesBenign cs →
      an_IsOk (hoverOnClauses cs pos)
    | [], _ => an_isOk_ok
    | (.mk _ cap to) :: rest, hb =>
        have hrest := an_hoverOnClauses_ok pos rest hb.2.2
        ite_of hrest (an_isOk_orElse (an_hoverOnExpression_ok pos cap hb.1)
          (an_isOk_orElse (an_hoverOnKoD_ok pos to hb.2.1) hrest))
  theorem an_hoverOnDstItems_ok (pos : Pos) : ∀ (items : List DestItem), DstItemsBenign items →
      an_IsOk (hoverOnDstItems items pos)
    | [], _ => an_isOk_ok
    | (.mk _ a to) :: rest, hb =>
        have hrest := an_hoverOnDstItems_ok pos rest hb.2.2
        ite_of hrest (an_isOk_orElse (an_hoverOnAllot_ok pos a hb.1)
          (an_isOk_orElse (an_hoverOnKoD_ok pos to hb.2.1) hrest))
end

theorem an_hoverOnStatement_ok (pos : Pos) : ∀ (s : Statement), s.Benign → an_IsOk (hoverOnStatement s pos)
  | .nil, _ => an_isOk_ok
  | .fnCallNil, hb => hb.elim
  | .send _ sv src dst, hb =>
      ite_of an_isOk_ok (an_isOk_orElse (an_hoverOnSentValue_ok pos sv hb.1)
        (an_isOk_orElse (an_hoverOnSource_ok pos src hb.2.1) (an_hoverOnDestination_ok pos dst hb.2.2)))
  | .save _ sv amount, hb =>
      ite_of an_isOk_ok
        (an_isOk_orElse (an_hoverOnSentValue_ok pos sv hb.1) (an_hoverOnExpression_ok pos amount hb.2))
  | .fnCall fn, hb => an_hoverOnFnCall_ok pos fn hb

theorem an_hoverOnStatements_ok (pos : Pos) : ∀ (ss : List Statement), StatementsBenign ss →
    an_IsOk (hoverOnStatements ss pos)
  | [], _ => an_isOk_ok
  | s :: ss, hb => an_isOk_orElse (an_hoverOnStatement_ok pos s hb.1) (an_hoverOnStatements_ok pos ss hb.2)

theorem an_hoverOnVars_ok (pos : Pos) : ∀ (ds : List VarDecl), VarDeclsBenign ds →
    an_IsOk (hoverOnVars ds pos)
  | [], _ => an_isOk_ok
  | d :: ds, hb => by
      unfold hoverOnVars
      refine an_isOk_orElse (ite_of an_isOk_ok ?_) (an_hoverOnVars_ok pos ds hb.2)
      split
      · exact an_hoverOnFnCall_ok pos _ (hb.1.2 _ ‹_›)
      · exact an_isOk_ok

theorem an_hoverOn_ok (prog : Program) (hb : prog.Benign) (pos : Pos) : an_IsOk (hoverOn prog pos) :=
  an_isOk_orElse (an_hoverOnVars_ok pos prog.vars hb.1) (an_hoverOnStatements_ok pos prog.stmts hb.2)

/-! ### the checker is total on benign trees -/

theorem an_assertHasType_ok (st : CState) {ro : Option Range} (h : ∃ r, ro = some r) (req act : String) :
    an_IsOk (assertHasType st ro req act) := by
  obtain ⟨r, rfl⟩ := h
  exact ite_of an_isOk_ok an_isOk_ok

theorem an_inferType_rangeOpt (st : CState) {l : Expr} (hb : l.Benign) (h : inferType st l ≠ "") :
    ∃ r, l.rangeOpt = some r :=
  an_rangeOpt_isSome (by rintro rfl; exact h rfl) hb

theorem an_checkExpression_ok : ∀ (e : Expr) (st : CState) (τ : String), e.Benign →
    an_IsOk (checkExpression st e τ)
  | .nil, _, _, _ => an_isOk_ok
  | .monetaryNil, _, _, hb => hb.elim
  | .var r name, st, τ, _ => by
      unfold checkExpression
      cases lookupDecl st name with
      | none => exact an_isOk_ok
      | some d =>
        dsimp only
        split
        · exact an_isOk_ok
        · exact ite_of (an_assertHasType_ok _ ⟨r, rfl⟩ _ _) an_isOk_ok
  | .asset r _, _, τ, _ | .account r _, _, τ, _ | .str r _, _, τ, _ | .number r _, _, τ, _
  | .ratio r _ _, _, τ, _ => an_assertHasType_ok _ ⟨r, rfl⟩ τ _
  | .monetary r a n, st, τ, hb =>
      an_isOk_bind (an_assertHasType_ok st ⟨r, rfl⟩ τ _) fun st1 =>
        an_isOk_bind (an_checkExpression_ok a st1 _ hb.1) fun st2 => an_checkExpression_ok n st2 _ hb.2
  | .infix r _ e1 e2, st, τ, hb => by
      have h1 := fun st τ => an_checkExpression_ok e1 st τ hb.1
      have h2 := fun st τ => an_checkExpression_ok e2 st τ hb.2
      unfold checkExpression
      refine ite_of (an_isOk_bind (h1 _ _) fun _ => h2 _ _) (ite_of
        (an_isOk_bind (h1 _ _) fun _ => an_isOk_bind (h2 _ _) fun _ => an_assertHasType_ok _ ⟨r, rfl⟩ _ _)
        (an_isOk_bind (h1 _ _) fun _ => an_isOk_bind (h2 _ _) fun _ => ?_))
      split
      · exact an_isOk_ok
      · exact an_assertHasType_ok _ (an_inferType_rangeOpt st hb.1 ‹_›) _ _

theorem an_exprsBenign_mem : ∀ {es : List Expr}, ExprsBenign es → ∀ a ∈ es, a.Benign
  | e :: es, hb, a, ha => by
      cases ha with
      | head => exact hb.1
      | tail _ h => exact an_exprsBenign_mem hb.2 a h

theorem an_checkExpressions_ok : ∀ (l : List (Expr × String)) (st : CState), (∀ p ∈ l, p.1.Benign) →
    an_IsOk (checkExpressions st l)
  | [], _, _ => an_isOk_ok
  | (e, t) :: rest, st, hb =>
      an_isOk_bind (an_checkExpression_ok e st t (hb (e, t) List.mem_cons_self)) fun st1 =>
        an_checkExpressions_ok rest st1 fun p hp => hb p (List.mem_cons_of_mem _ hp)

theorem an_validArgs_mem {fn : FnCall} (hb : ExprsBenign fn.args) (a : Expr)
    (ha : a ∈ fn.args.filter (fun a => match a with | .nil => false | _ => true)) :
    a.Benign ∧ ∃ r, a.rangeOpt = some r := by
  obtain ⟨hm, hp⟩ := List.mem_filter.mp ha
  have hben := an_exprsBenign_mem hb a hm
  exact ⟨hben, an_rangeOpt_isSome (by rintro rfl; cases hp) hben⟩

theorem an_checkFnCallArity_ok (st : CState) (fn : FnCall) (hb : ExprsBenign fn.args) :
    an_IsOk (checkFnCallArity st fn) := by
  have hv := an_validArgs_mem hb
  unfold checkFnCallArity
  split
  · refine an_isOk_bind (ite_of an_isOk_ok (ite_of ?_ an_isOk_ok)) fun st2 =>
      an_checkExpressions_ok _ st2 fun p hp => (hv _ (List.mem_of_mem_take (List.of_mem_zip hp).1)).1
    -- too many arguments: the diagnostic spans two valid arguments, which have ranges
    split
    · rename_i first last h1 h2
      obtain ⟨fr, hfr⟩ := (hv first (List.mem_of_getElem? h1)).2
      obtain ⟨lr, hlr⟩ := (hv last (List.mem_of_getLast? h2)).2
      rw [hfr, hlr]
      exact an_isOk_ok
    · exact an_isOk_ok
  · refine an_isOk_bind (an_checkExpressions_ok _ st fun p hp => ?_) fun _ => an_isOk_ok
    obtain ⟨a, ha, rfl⟩ := List.mem_map.mp hp
    exact (hv a ha).1

theorem an_checkSentValue_ok (st : CState) : ∀ (sv : SentValue), sv.Benign → an_IsOk (checkSentValue st sv)
  | .nil, _ => an_isOk_ok
  | .lit _ m, hb => an_checkExpression_ok m st _ hb
  | .all _ a, hb => an_checkExpression_ok a st _ hb

theorem an_checkAllotValue_ok (st : CState) (acc : AllotAcc) (a : AllotVal) (isLast : Bool)
    (whole : Range) : an_IsOk (checkAllotValue st acc a isLast whole) := by
  unfold checkAllotValue
  split
  · exact an_isOk_ok
  · exact ite_of an_isOk_ok an_isOk_ok
  · exact an_isOk_bind (an_checkExpression_ok (.var _ _) st _ trivial) fun _ => an_isOk_ok
  · exact an_isOk_ok
  · exact an_isOk_ok

theorem an_sourceHead_ok (st : CState) (src : Source) (h : ∃ r, src.rangeOpt = some r) :
    an_IsOk (sourceHead st src) := by
  obtain ⟨r, hr⟩ := h
  rw [sourceHead, hr]
  exact ite_of an_isOk_ok an_isOk_ok

theorem an_checkOverdraftHead_ok (st : CState) (addr : Expr) (bounded : Option Expr)
    (h : ∃ r, addr.rangeOpt = some r) : an_IsOk (checkOverdraftHead st addr bounded) := by
  obtain ⟨r, hr⟩ := h
  unfold checkOverdraftHead
  rw [hr]
  exact ite_of an_isOk_ok an_isOk_ok

mutual
  theorem an_checkSource_ok : ∀ (s : Source) (st : CState), s.Benign → an_IsOk (checkSource st s)
    | .nil, _, _ => an_isOk_ok
    | .account e, st, hb =>
        an_isOk_bind (an_sourceHead_ok st _ (an_rangeOpt_isSome hb.1 hb.2)) fun st1 =>
          an_isOk_bind (an_checkExpression_ok e st1 _ hb.2) fun _ => an_isOk_ok
    | .overdraft r addr none, st, hb =>
        an_isOk_bind (an_sourceHead_ok st _ ⟨r, rfl⟩) fun st1 =>
          an_isOk_bind (an_checkOverdraftHead_ok st1 addr _ (an_rangeOpt_isSome hb.1 hb.2)) fun st2 =>
            an_isOk_bind (an_checkExpression_ok addr st2 _ hb.2) fun _ => an_isOk_ok
    | .overdraft r addr (some b), st, hb =>
        an_isOk_bind (an_sourceHead_ok st _ ⟨r, rfl⟩) fun st1 =>
          an_isOk_bind (an_checkOverdraftHead_ok st1 addr _ (an_rangeOpt_isSome hb.1 hb.2.1)) fun st2 =>
            an_isOk_bind (an_checkExpression_ok addr st2 _ hb.2.1) fun st3 =>
              an_checkExpression_ok b st3 _ hb.2.2
    | .inorder r srcs, st, hb =>
        an_isOk_bind (an_sourceHead_ok st _ ⟨r, rfl⟩) fun st1 => an_checkSourceList_ok srcs st1 hb
    | .capped r cap src, st, hb =>
        an_isOk_bind (an_sourceHead_ok st _ ⟨r, rfl⟩) fun _ =>
          an_isOk_bind (an_checkExpression_ok cap _ _ hb.1) fun st2 =>
            an_isOk_bind (an_checkSource_ok src st2 hb.2) fun _ => an_isOk_ok
    | .allotment r items, st, hb =>
        an_isOk_bind (an_sourceHead_ok st _ ⟨r, rfl⟩) fun _ =>
          an_isOk_bind_pair (an_checkSrcItems_ok items _ _ _ hb) fun _ _ => an_isOk_ok
  theorem an_checkSourceList_ok : ∀ (ss : List Source) (st : CState), SourcesBenign ss →
      an_IsOk (checkSourceList st ss)
    | [], _, _ => an_isOk_ok
    | s :: ss, st, hb =>
        an_isOk_bind (an_checkSource_ok s st hb.1) fun st1 => an_checkSourceList_ok ss st1 hb.2
  theorem an_checkSrcItems_ok : ∀ (items : List SrcItem) (st : CState) (acc : AllotAcc) (w : Range),
      SrcItemsBenign items → an_IsOk (checkSrcItems st items acc w)
    | [], _, _, _, _ => an_isOk_ok
    | (.mk _ a src) :: rest, st, acc, w, hb =>
        an_isOk_bind_pair (an_checkAllotValue_ok st acc a _ w) fun _ acc1 =>
          an_isOk_bind (an_checkSource_ok src _ hb.2.1) fun _ => an_checkSrcItems_ok rest _ acc1 w hb.2.2
end

mutual
  theorem an_checkDestination_ok : ∀ (d : Dest) (st : CState), d.Benign → an_IsOk (checkDestination st d)
    | .nil, _, _ => an_isOk_ok
    | .account e, st, hb => an_checkExpression_ok e st _ hb.2
    | .inorder _ clauses remaining, st, hb =>
        an_isOk_bind (an_checkClauses_ok clauses st hb.1) fun st1 => an_checkKoD_ok remaining st1 hb.2
    | .allotment _ items, st, hb =>
        an_isOk_bind_pair (an_checkDstItems_ok items st _ _ hb) fun _ _ => an_isOk_ok
  theorem an_checkKoD_ok : ∀ (k : KoD) (st : CState), k.Benign → an_IsOk (checkKoD st k)
    | .nil, _, _ | .kept _, _, _ => an_isOk_ok
    | .to d, st, hb => an_checkDestination_ok d st hb
  theorem an_checkClauses_ok : ∀ (cs : List DestClause) (st : CState), ClausesBenign cs →
      an_IsOk (checkClauses st cs)
    | [], _, _ => an_isOk_ok
    | (.mk _ cap to) :: rest, st, hb =>
        an_isOk_bind (an_checkExpression_ok cap st _ hb.1) fun st1 =>
          an_isOk_bind (an_checkKoD_ok to st1 hb.2.1) fun st2 => an_checkClauses_ok rest st2 hb.2.2
  theorem an_checkDstItems_ok : ∀ (items : List DestItem) (st : CState) (acc : AllotAcc) (w : Range),
      DstItemsBenign items → an_IsOk (checkDstItems st items acc w)
    | [], _, _, _, _ => an_isOk_ok
    | (.mk _ a to) :: rest, st, acc, w, hb =>
        an_isOk_bind_pair (an_checkAllotValue_ok st acc a _ w) fun st1 acc1 =>
          an_isOk_bind (an_checkKoD_ok to st1 hb.2.1) fun st2 => an_checkDstItems_ok rest st2 acc1 w hb.2.2
end

theorem an_checkStatement_ok (st : CState) : ∀ (s : Statement), s.Benign → an_IsOk (checkStatement st s)
  | .nil, _ => an_isOk_ok
  | .fnCallNil, hb => hb.elim
  | .send _ sv src dst, hb =>
      an_isOk_bind (an_checkSentValue_ok _ sv hb.1) fun st1 =>
        an_isOk_bind (an_checkSource_ok src st1 hb.2.1) fun st2 => an_checkDestination_ok dst st2 hb.2.2
  | .save _ sv amount, hb =>
      an_isOk_bind (an_checkSentValue_ok _ sv hb.1) fun st1 => an_checkExpression_ok amount st1 _ hb.2
  | .fnCall fn, hb => an_checkFnCallArity_ok _ fn hb

theorem an_checkVarOrigin_ok (st : CState) (fn : FnCall) (d : VarDecl) (hb : ExprsBenign fn.args) :
    an_IsOk (checkVarOrigin st fn d) := by
  unfold checkVarOrigin
  refine an_isOk_bind (ite_of ?_ an_isOk_ok) fun st2 => an_checkFnCallArity_ok st2 fn hb
  split
  · exact an_assertHasType_ok _ ⟨_, rfl⟩ _ _
  · exact an_isOk_ok

theorem an_checkVarDecl_ok (st : CState) (d : VarDecl) (hb : d.Benign) :
    an_IsOk (checkVarDecl st d) := by
  unfold checkVarDecl
  refine an_isOk_bind ?_ fun st3 => ?_
  · split
    · exact an_checkVarOrigin_ok _ _ d (hb.2 _ ‹_›)
    · exact an_isOk_ok
  · split
    · exact ite_of an_isOk_ok an_isOk_ok
    · exact an_isOk_ok

theorem an_checkVarDecls_ok : ∀ (ds : List VarDecl) (st : CState), VarDeclsBenign ds →
    an_IsOk (checkVarDecls st ds)
  | [], _, _ => an_isOk_ok
  | d :: ds, st, hb =>
      an_isOk_bind (an_checkVarDecl_ok st d hb.1) fun st1 => an_checkVarDecls_ok ds st1 hb.2

theorem an_checkStatements_ok : ∀ (ss : List Statement) (st : CState), StatementsBenign ss →
    an_IsOk (checkStatements st ss)
  | [], _, _ => an_isOk_ok
  | s :: ss, _, hb =>
      an_isOk_bind (an_checkStatement_ok _ s hb.1) fun st1 => an_checkStatements_ok ss st1 hb.2

/-! ### what the checker does to its state -/

def an_Ext (a b : CState) : Prop :=
  (∃ rest, b.diags = a.diags ++ rest) ∧ b.declared = a.declared ∧
  (∀ p ∈ b.varRes, p ∈ a.varRes ∨ ∃ q ∈ a.declared, q.2 = p.2)

theorem append_refl {α} (x : List α) : ∃ l, x = x ++ l := ⟨[], (List.append_nil x).symm⟩

theorem append_trans {α} {x y z : List α} (h1 : ∃ l, y = x ++ l) (h2 : ∃ l, z = y ++ l) :
    ∃ l, z = x ++ l := by
  obtain ⟨l1, rfl⟩ := h1
  obtain ⟨l2, rfl⟩ := h2
  exact ⟨l1 ++ l2, List.append_assoc ..⟩

theorem an_ext_refl (a : CState) : an_Ext a a :=
  ⟨append_refl _, rfl, fun _ hp => Or.inl hp⟩

theorem an_ext_trans {a b c : CState} (h1 : an_Ext a b) (h2 : an_Ext b c) : an_Ext a c := by
  obtain ⟨hd1, hc1, hv1⟩ := h1
  obtain ⟨hd2, hc2, hv2⟩ := h2
  refine ⟨append_trans hd1 hd2, hc2.trans hc1, fun p hp => ?_⟩
  rcases hv2 p hp with h | ⟨q, hq, hqp⟩
  · exact hv1 p h
  · exact Or.inr ⟨q, hc1 ▸ hq, hqp⟩

theorem an_ext_push (a : CState) (r : Range) (k : DiagKind) : an_Ext a (a.push r k) :=
  ⟨⟨[⟨r, k⟩], rfl⟩, rfl, fun _ hp => Or.inl hp⟩

theorem an_ext_mk (a : CState) (u f e b1 b2) :
    an_Ext a ⟨a.diags, a.declared, u, a.varRes, f, e, b1, b2⟩ := an_ext_refl a

/-- all that checking an expression, a source or a destination does to the state -/
def an_Frame (a b : CState) : Prop :=
  an_Ext a b ∧ b.fnRes = a.fnRes ∧ b.unboundedSend = a.unboundedSend

theorem an_frame_refl (a : CState) : an_Frame a a := ⟨an_ext_refl a, rfl, rfl⟩

theorem an_frame_trans {a b c : CState} (h1 : an_Frame a b) (h2 : an_Frame b c) : an_Frame a c :=
  ⟨an_ext_trans h1.1 h2.1, h2.2.1.trans h1.2.1, h2.2.2.trans h1.2.2⟩

theorem an_frame_push (a : CState) (r : Range) (k : DiagKind) : an_Frame a (a.push r k) :=
  ⟨an_ext_push a r k, rfl, rfl⟩

theorem an_frame_mk (a : CState) (u e b) :
    an_Frame a ⟨a.diags, a.declared, u, a.varRes, a.fnRes, e, b, a.unboundedSend⟩ := an_frame_refl a

theorem an_frame_capped {st inner : CState} (h : an_Frame (enterCapped st) inner) :
    an_Frame st (exitCapped inner st) :=
  ⟨h.1, h.2.1, rfl⟩

theorem an_foldl_push_frame {β : Type} (f : β → Range) (g : β → DiagKind) : ∀ (l : List β) (st : CState),
    an_Frame st (l.foldl (fun s x => s.push (f x) (g x)) st)
  | [], st => an_frame_refl st
  | _ :: l, st => an_frame_trans (an_frame_push st _ _) (an_foldl_push_frame f g l _)

theorem an_bind_eq_ok {β} {o : Outcome CState} {f : CState → Outcome β} {b : β}
    (h : (match o with | .panic s => .panic s | .err e => .err e | .ok x => f x : Outcome β) = .ok b) :
    ∃ x, o = .ok x ∧ f x = .ok b := by
  cases o with
  | ok x => exact ⟨x, rfl, h⟩
  | err e => cases h
  | panic s => cases h

theorem an_bind_pair_eq_ok {β} {o : Outcome (CState × AllotAcc)} {f : CState → AllotAcc → Outcome β} {b : β}
    (h : (match o with | .panic s => .panic s | .err e => .err e | .ok (x, y) => f x y : Outcome β) = .ok b) :
    ∃ x y, o = .ok (x, y) ∧ f x y = .ok b := by
  cases o with
  | ok a => exact ⟨a.1, a.2, rfl, h⟩
  | err e => cases h
  | panic s => cases h

/-- `X_frame` says `an_Grows st (X st …)` of a check `X` that returns an outcome,
    `an_Frame st (X st …)` of a step that returns a state, and
    `X st … = .ok (st', acc') → an_Frame st st'` of the three checks that also return an accumulator. -/
structure an_Grows (st : CState) (o : Outcome CState) : Prop where
  frame : ∀ {st'}, o = .ok st' → an_Frame st st'

theorem an_grows_ok {st x : CState} (h : an_Frame st x) : an_Grows st (.ok x) :=
  ⟨fun ho => Outcome.ok.inj ho ▸ h⟩

theorem an_grows_refl (st : CState) : an_Grows st (.ok st) := an_grows_ok (an_frame_refl st)

theorem an_grows_panic {st : CState} {s : String} : an_Grows st (.panic s) := ⟨nofun⟩

theorem an_grows_trans {a b : CState} {o : Outcome CState} (h : an_Frame a b) (hb : an_Grows b o) :
    an_Grows a o :=
  ⟨fun ho => an_frame_trans h (hb.frame ho)⟩

/-- where the first step changes more than a frame allows, `an_Ext` is what is left -/
theorem an_grows_ext {a b : CState} {o : Outcome CState} (h : an_Ext a b) (hb : an_Grows b o)
    (st' : CState) (ho : o = .ok st') : an_Ext a st' :=
  an_ext_trans h (hb.frame ho).1

/- The hypotheses are left unnamed: a local `ho : an_Grows st o` would be taken along by the
   `match` on `o` in the statement, which would then not be the model's. -/
theorem an_grows_bind {st : CState} {o : Outcome CState} {f : CState → Outcome CState} :
    an_Grows st o → (∀ x, an_Grows x (f x)) →
    an_Grows st (match o with | .panic s => .panic s | .err e => .err e | .ok x => f x) := by
  refine fun ho hf => ⟨fun h => ?_⟩
  obtain ⟨x, hx, h⟩ := an_bind_eq_ok h
  exact an_frame_trans (ho.frame hx) ((hf x).frame h)

theorem an_grows_bind_pair {st : CState} {o : Outcome (CState × AllotAcc)}
    {f : CState → AllotAcc → Outcome CState} :
    (∀ x y, o = .ok (x, y) → an_Frame st x) → (∀ x y, an_Grows x (f x y)) →
    an_Grows st (match o with | .panic s => .panic s | .err e => .err e | .ok (x, y) => f x y) := by
  refine fun ho hf => ⟨fun h => ?_⟩
  obtain ⟨x, y, hx, h⟩ := an_bind_pair_eq_ok h
  exact an_frame_trans (ho x y hx) ((hf x y).frame h)

theorem an_assertHasType_frame (st : CState) : ∀ (ro : Option Range) (req act : String),
    an_Grows st (assertHasType st ro req act)
  | none, _, _ => ite_of (an_grows_refl st) an_grows_panic
  | some r, _, _ => ite_of (an_grows_refl st) (an_grows_ok (an_frame_push st r _))

theorem an_lookupDecl_mem {st : CState} {name : String} {d : VarDecl} (h : lookupDecl st name = some d) :
    ∃ q ∈ st.declared, q.2 = d := by
  unfold lookupDecl at h
  rw [Option.map_eq_some_iff] at h
  obtain ⟨q, hq, rfl⟩ := h
  exact ⟨q, List.mem_of_find?_eq_some hq, rfl⟩

theorem an_frame_varRes {st : CState} {name : String} {d : VarDecl} (h : lookupDecl st name = some d)
    (k : Range × String) (u : List (String × Range)) :
    an_Frame st { st with varRes := (k, d) :: st.varRes, unused := u } := by
  refine ⟨⟨append_refl _, rfl, fun p hp => ?_⟩, rfl, rfl⟩
  rcases List.mem_cons.mp hp with rfl | hp
  · exact Or.inr (an_lookupDecl_mem h)
  · exact Or.inl hp

theorem an_checkRatioLiteral_frame (st : CState) (r : Range) (den : Nat) :
    an_Frame st (checkRatioLiteral st r den).1 := by
  unfold checkRatioLiteral
  split
  · exact an_frame_push st _ _
  · exact an_frame_refl st

theorem an_checkExpression_frame : ∀ (e : Expr) (st : CState) (τ : String), an_Grows st (checkExpression st e τ)
  | .nil, st, _ => an_grows_refl st
  | .monetaryNil, st, τ => by
      refine ⟨fun h => ?_⟩
      unfold checkExpression at h
      split at h <;> cases h
  | .var r name, st, τ => by
      unfold checkExpression
      cases hl : lookupDecl st name with
      | none => exact an_grows_ok (an_frame_trans (an_frame_push st r _) (an_frame_mk ..))
      | some d =>
        dsimp only
        split
        · exact an_grows_ok (an_frame_varRes hl ..)
        · exact an_grows_trans (an_frame_varRes hl ..) (ite_of (an_assertHasType_frame _ _ _ _) (an_grows_refl _))
  | .asset r _, st, τ | .account r _, st, τ | .str r _, st, τ | .number r _, st, τ =>
      an_assertHasType_frame st (some r) τ _
  | .ratio r _ den, st, τ =>
      an_grows_trans (an_checkRatioLiteral_frame st r den) (an_assertHasType_frame _ (some r) τ _)
  | .monetary r a n, st, τ =>
      an_grows_bind (an_assertHasType_frame st (some r) τ _) fun st1 =>
        an_grows_bind (an_checkExpression_frame a st1 _) fun st2 => an_checkExpression_frame n st2 _
  | .infix r _ e1 e2, st, τ => by
      have h1 := an_checkExpression_frame e1
      have h2 := an_checkExpression_frame e2
      unfold checkExpression
      exact ite_of (an_grows_bind (h1 _ _) fun _ => h2 _ _) (ite_of
        (an_grows_bind (h1 _ _) fun _ => an_grows_bind (h2 _ _) fun _ => an_assertHasType_frame _ _ _ _)
        (an_grows_bind (h1 _ _) fun _ => an_grows_bind (h2 _ _) fun st2 =>
          ite_of (an_grows_refl st2) (an_assertHasType_frame _ _ _ _)))

theorem an_checkExpressions_frame : ∀ (l : List (Expr × String)) (st : CState),
    an_Grows st (checkExpressions st l)
  | [], st => an_grows_refl st
  | (e, t) :: rest, st =>
      an_grows_bind (an_checkExpression_frame e st t) fun st1 => an_checkExpressions_frame rest st1

theorem an_checkFnCallArity_frame (st : CState) (fn : FnCall) : an_Grows st (checkFnCallArity st fn) := by
  unfold checkFnCallArity
  split
  · refine an_grows_bind (ite_of (an_grows_ok (an_frame_push st ..)) (ite_of ?_ (an_grows_refl st)))
      fun st2 => an_checkExpressions_frame _ st2
    split
    · split
      · exact an_grows_ok (an_frame_push st ..)
      · exact an_grows_panic
    · exact an_grows_refl st
  · exact an_grows_bind (an_checkExpressions_frame _ st) fun st1 => an_grows_ok (an_frame_push st1 ..)

theorem an_checkSentValue_frame (st : CState) : ∀ (sv : SentValue), an_Grows st (checkSentValue st sv)
  | .nil => an_grows_refl st
  | .lit _ m => an_checkExpression_frame m st _
  | .all _ a => an_checkExpression_frame a st _

theorem an_checkHasBadAllotmentSum_frame (st : CState) (sum : Rat) (rng : Range) (remaining : Option Range)
    (vl : List Range) : an_Frame st (checkHasBadAllotmentSum st sum rng remaining vl) := by
  have h0 := an_foldl_push_frame (fun r => r) (fun _ => DiagKind.fixedPortionVariable 0) vl st
  unfold checkHasBadAllotmentSum
  refine ite_of ?_ (ite_of (an_frame_refl _) (ite_of ?_ (an_frame_push _ _ _)))
  · cases remaining with
    | none => exact h0
    | some rr => exact an_frame_trans h0 (an_frame_push _ _ _)
  · split
    · exact an_frame_push _ _ _
    · exact an_frame_refl _

theorem an_checkAllotValue_frame {st : CState} {acc : AllotAcc} {a : AllotVal} {isLast : Bool}
    {whole : Range} {st' : CState} {acc' : AllotAcc}
    (h : checkAllotValue st acc a isLast whole = .ok (st', acc')) : an_Frame st st' := by
  unfold checkAllotValue at h
  split at h
  · cases h
    exact an_frame_refl st
  · split at h
    · cases h
      exact an_frame_refl st
    · cases h
      exact an_frame_push st _ _
  · obtain ⟨st1, h1, h⟩ := an_bind_eq_ok h
    cases h
    exact (an_checkExpression_frame _ _ _).frame h1
  · cases h
    exact an_checkRatioLiteral_frame st _ _
  · cases h
    exact an_frame_refl st

theorem an_sourceHead_frame (st : CState) (src : Source) : an_Grows st (sourceHead st src) := by
  unfold sourceHead
  refine ite_of ?_ (an_grows_refl st)
  split
  · exact an_grows_ok (an_frame_push st _ _)
  · exact an_grows_panic

theorem an_checkSourceAccountLit_frame (st : CState) (e : Expr) : an_Frame st (checkSourceAccountLit st e) := by
  unfold checkSourceAccountLit
  split
  · exact an_frame_trans (an_frame_trans
      (ite_of (an_frame_push st _ _) (ite_of (an_frame_mk st ..) (an_frame_refl st)))
      (ite_of (an_frame_push _ _ _) (an_frame_refl _))) (an_frame_mk ..)
  · exact an_frame_refl st

theorem an_checkOverdraftHead_frame (st : CState) (addr : Expr) (bounded : Option Expr) :
    an_Grows st (checkOverdraftHead st addr bounded) := by
  unfold checkOverdraftHead
  extract_lets isWorld st1 st2
  have e1 : an_Frame st st1 := by
    simp only [st1]
    split
    · exact ite_of (an_frame_push st _ _) (an_frame_refl st)
    · exact an_frame_refl st
  have e2 : an_Frame st st2 := an_frame_trans e1 (ite_of (an_frame_mk st1 ..) (an_frame_refl st1))
  refine an_grows_trans e2 (ite_of ?_ (an_grows_refl st2))
  split
  · exact an_grows_ok (an_frame_push st2 _ _)
  · exact an_grows_panic

mutual
  theorem an_checkSource_frame : ∀ (s : Source) (st : CState), an_Grows st (checkSource st s)
    | .nil, st => an_grows_refl st
    | .account e, st =>
        an_grows_bind (an_sourceHead_frame st _) fun st1 =>
          an_grows_bind (an_checkExpression_frame e st1 _) fun st2 =>
            an_grows_ok (an_checkSourceAccountLit_frame st2 e)
    | .overdraft _ addr bounded, st =>
        an_grows_bind (an_sourceHead_frame st _) fun st1 =>
          an_grows_bind (an_checkOverdraftHead_frame st1 addr bounded) fun st2 =>
            an_grows_bind (an_checkExpression_frame addr st2 _) fun st3 =>
              match bounded with
              | none => an_grows_refl st3
              | some b => an_checkExpression_frame b st3 _
    | .inorder _ srcs, st =>
        an_grows_bind (an_sourceHead_frame st _) fun st1 => an_checkSourceList_frame srcs st1
    | .capped _ cap src, st =>
        an_grows_bind (an_sourceHead_frame st _) fun st1 => ⟨fun h => by
          obtain ⟨st2, h2, h⟩ := an_bind_eq_ok h
          obtain ⟨st3, h3, h⟩ := an_bind_eq_ok h
          cases h
          exact an_frame_capped
            (an_frame_trans ((an_checkExpression_frame cap _ _).frame h2) ((an_checkSource_frame src _).frame h3))⟩
    | .allotment _ items, st =>
        an_grows_bind (an_sourceHead_frame st _) fun st1 =>
          an_grows_trans (ite_of (an_frame_push st1 _ _) (an_frame_refl st1)) <|
            an_grows_bind_pair (fun _ _ => an_checkSrcItems_frame items) fun st2 _ =>
              an_grows_ok (an_checkHasBadAllotmentSum_frame st2 ..)
  theorem an_checkSourceList_frame : ∀ (ss : List Source) (st : CState), an_Grows st (checkSourceList st ss)
    | [], st => an_grows_refl st
    | s :: ss, st => an_grows_bind (an_checkSource_frame s st) fun st1 => an_checkSourceList_frame ss st1
  theorem an_checkSrcItems_frame : ∀ (items : List SrcItem) {st : CState} {acc : AllotAcc} {w : Range}
      {st' : CState} {acc' : AllotAcc}, checkSrcItems st items acc w = .ok (st', acc') → an_Frame st st'
    | [], st, _, _, _, _, h => by
        cases h
        exact an_frame_refl st
    | (.mk _ a src) :: rest, _, _, _, _, _, h => by
        unfold checkSrcItems at h
        obtain ⟨st1, _, h1, h⟩ := an_bind_pair_eq_ok h
        obtain ⟨st2, h2, h⟩ := an_bind_eq_ok h
        exact an_frame_trans (an_checkAllotValue_frame h1)
          (an_frame_trans (an_frame_capped ((an_checkSource_frame src _).frame h2))
            (an_checkSrcItems_frame rest h))
end

mutual
  theorem an_checkDestination_frame : ∀ (d : Dest) (st : CState), an_Grows st (checkDestination st d)
    | .nil, st => an_grows_refl st
    | .account e, st => an_checkExpression_frame e st _
    | .inorder _ clauses remaining, st =>
        an_grows_bind (an_checkClauses_frame clauses st) fun st1 => an_checkKoD_frame remaining st1
    | .allotment _ items, _ =>
        an_grows_bind_pair (fun _ _ => an_checkDstItems_frame items) fun st1 _ =>
          an_grows_ok (an_checkHasBadAllotmentSum_frame st1 ..)
  theorem an_checkKoD_frame : ∀ (k : KoD) (st : CState), an_Grows st (checkKoD st k)
    | .nil, st | .kept _, st => an_grows_refl st
    | .to d, st => an_checkDestination_frame d st
  theorem an_checkClauses_frame : ∀ (cs : List DestClause) (st : CState), an_Grows st (checkClauses st cs)
    | [], st => an_grows_refl st
    | (.mk _ cap to) :: rest, st =>
        an_grows_bind (an_checkExpression_frame cap st _) fun st1 =>
          an_grows_bind (an_checkKoD_frame to st1) fun st2 => an_checkClauses_frame rest st2
  theorem an_checkDstItems_frame : ∀ (items : List DestItem) {st : CState} {acc : AllotAcc} {w : Range}
      {st' : CState} {acc' : AllotAcc}, checkDstItems st items acc w = .ok (st', acc') → an_Frame st st'
    | [], st, _, _, _, _, h => by
        cases h
        exact an_frame_refl st
    | (.mk _ a to) :: rest, _, _, _, _, _, h => by
        unfold checkDstItems at h
        obtain ⟨_, _, h1, h⟩ := an_bind_pair_eq_ok h
        obtain ⟨_, h2, h⟩ := an_bind_eq_ok h
        exact an_frame_trans (an_checkAllotValue_frame h1)
          (an_frame_trans ((an_checkKoD_frame to _).frame h2) (an_checkDstItems_frame rest h))
end

theorem an_checkSourceList_ext : ∀ (ss : List Source) (st st' : CState),
    checkSourceList st ss = .ok st' → an_Ext st st' :=
  fun ss st _ h => ((an_checkSourceList_frame ss st).frame h).1

theorem an_checkSrcItems_ext : ∀ (items : List SrcItem) (st : CState) (acc : AllotAcc) (w : Range)
    (st' : CState) (acc' : AllotAcc), checkSrcItems st items acc w = .ok (st', acc') → an_Ext st st' :=
  fun items _ _ _ _ _ h => (an_checkSrcItems_frame items h).1

theorem an_checkKoD_ext : ∀ (k : KoD) (st st' : CState), checkKoD st k = .ok st' → an_Ext st st' :=
  fun k st _ h => ((an_checkKoD_frame k st).frame h).1

theorem an_checkClauses_ext : ∀ (cs : List DestClause) (st st' : CState),
    checkClauses st cs = .ok st' → an_Ext st st' :=
  fun cs st _ h => ((an_checkClauses_frame cs st).frame h).1

theorem an_checkDstItems_ext : ∀ (items : List DestItem) (st : CState) (acc : AllotAcc) (w : Range)
    (st' : CState) (acc' : AllotAcc), checkDstItems st items acc w = .ok (st', acc') → an_Ext st st' :=
  fun items _ _ _ _ _ h => (an_checkDstItems_frame items h).1

theorem an_checkStatement_ext (st : CState) : ∀ (s : Statement) (st' : CState),
    checkStatement st s = .ok st' → an_Ext st st'
  | .nil => an_grows_ext (an_ext_mk st ..) (an_grows_refl _)
  | .fnCallNil => nofun
  | .save _ sv amount =>
      an_grows_ext (an_ext_mk st ..) <|
        an_grows_bind (an_checkSentValue_frame _ sv) fun st1 => an_checkExpression_frame amount st1 _
  | .send _ sv src dst =>
      an_grows_ext (an_ext_mk st ..) <|
        an_grows_bind (an_checkSentValue_frame _ sv) fun st1 =>
          an_grows_bind (an_checkSource_frame src st1) fun st2 => an_checkDestination_frame dst st2
  | .fnCall fn =>
      an_grows_ext (an_ext_trans (an_ext_mk st ..) (ite_of (an_ext_mk _ ..) (an_ext_refl _)))
        (an_checkFnCallArity_frame _ fn)

theorem an_checkVarOrigin_ext {st st' : CState} {fn : FnCall} {d : VarDecl}
    (h : checkVarOrigin st fn d = .ok st') : an_Ext st st' := by
  unfold checkVarOrigin at h
  obtain ⟨st2, h2, h⟩ := an_bind_eq_ok h
  refine an_ext_trans ?_ ((an_checkFnCallArity_frame st2 fn).frame h).1
  split at h2
  · dsimp only at h2
    split at h2
    · exact an_grows_ext (an_ext_mk st ..) (an_assertHasType_frame _ _ _ _) st2 h2
    · exact an_grows_ext (an_ext_mk st ..) (an_grows_refl _) st2 h2
  · exact an_grows_ext (an_ext_refl st) (an_grows_refl _) st2 h2

theorem an_checkStatements_ext : ∀ (ss : List Statement) (st st' : CState),
    checkStatements st ss = .ok st' → an_Ext st st'
  | [], st, _, h => ((an_grows_refl st).frame h).1
  | s :: ss, st, _, h => by
      unfold checkStatements at h
      obtain ⟨st1, h1, h⟩ := an_bind_eq_ok h
      exact an_ext_trans (an_ext_mk st ..)
        (an_ext_trans (an_checkStatement_ext _ s st1 h1) (an_checkStatements_ext ss st1 _ h))

/-! ### the invariant: every declaration the state knows has a name and a type -/

def an_Good (d : VarDecl) : Prop := d.name.isSome ∧ d.type.isSome

def an_Inv (st : CState) : Prop :=
  (∀ p ∈ st.declared, an_Good p.2) ∧ (∀ p ∈ st.varRes, an_Good p.2)

theorem an_ext_inv {a b : CState} (h : an_Ext a b) (hi : an_Inv a) : an_Inv b := by
  obtain ⟨_, hc, hv⟩ := h
  refine ⟨fun p hp => hi.1 p (hc ▸ hp), fun p hp => ?_⟩
  rcases hv p hp with h | ⟨q, hq, hqp⟩
  · exact hi.2 p h
  · exact hqp ▸ hi.1 q hq

theorem an_ext_diags {a b : CState} (h : an_Ext a b) : ∃ rest, b.diags = a.diags ++ rest := h.1

/-- one step of the declaration loop; `hyp` is that the declarations checked in the step are benign -/
def an_Step (hyp : Prop) (a b : CState) : Prop :=
  (∃ rest, b.diags = a.diags ++ rest) ∧ (hyp → an_Inv a → an_Inv b)

theorem an_step_of_ext {hyp : Prop} {a b : CState} (h : an_Ext a b) : an_Step hyp a b :=
  ⟨h.1, fun _ => an_ext_inv h⟩

theorem an_step_trans {h1 h2 : Prop} {a b c : CState} (s1 : an_Step h1 a b) (s2 : an_Step h2 b c) :
    an_Step (h1 ∧ h2) a c :=
  ⟨append_trans s1.1 s2.1, fun h hi => s2.2 h.2 (s1.2 h.1 hi)⟩

theorem an_checkVarDecl_step {st : CState} {d : VarDecl} {st' : CState}
    (h : checkVarDecl st d = .ok st') : an_Step d.Benign st st' := by
  unfold checkVarDecl at h
  extract_lets st1 st2 at h
  have e1 : an_Ext st st1 := by
    simp only [st1]
    split
    · exact ite_of (an_ext_refl _) (an_ext_push _ _ _)
    · exact an_ext_refl _
  obtain ⟨st3, h3, h⟩ := an_bind_eq_ok h
  have e3 : an_Ext st st3 := by
    simp only [st2] at h3
    split at h3
    · exact an_ext_trans e1 (an_checkVarOrigin_ext h3)
    · exact an_grows_ext e1 (an_grows_refl _) _ h3
  split at h
  · rename_i r name hname
    split at h
    · exact an_step_of_ext (an_grows_ext e3 (an_grows_ok (an_frame_push _ _ _)) _ h)
    · cases h
      refine ⟨e3.1, fun hb hi => ?_⟩
      have hi3 := an_ext_inv e3 hi
      refine ⟨fun p hp => ?_, hi3.2⟩
      rcases List.mem_append.mp hp with hp | hp
      · exact hi3.1 p hp
      · rw [List.mem_singleton] at hp
        subst hp
        exact ⟨by simp [hname], hb.1 (by simp [hname])⟩
  · exact an_step_of_ext (an_grows_ext e3 (an_grows_refl _) _ h)

theorem an_checkVarDecls_step : ∀ (ds : List VarDecl) {st st' : CState},
    checkVarDecls st ds = .ok st' → an_Step (VarDeclsBenign ds) st st'
  | [], st, _, h => an_step_of_ext ((an_grows_refl st).frame h).1
  | d :: ds, _, _, h => by
      unfold checkVarDecls at h
      obtain ⟨_, h1, h⟩ := an_bind_eq_ok h
      exact an_step_trans (an_checkVarDecl_step h1) (an_checkVarDecls_step ds h)

theorem an_checkProgram_step (pd : List Diag) (prog : Program) (st : CState)
    (h : checkProgram pd prog = .ok st) :
    (∃ rest, st.diags = pd ++ rest) ∧ (prog.Benign → an_Inv st) := by
  unfold checkProgram at h
  obtain ⟨_, h1, h⟩ := an_bind_eq_ok h
  obtain ⟨st2, h2, h⟩ := an_bind_eq_ok h
  have e3 := an_foldl_push_frame (fun p : String × Range => p.2) (fun p => DiagKind.unusedVar p.1)
    st2.unused st2
  have s := an_step_trans (an_checkVarDecls_step _ h1)
    (an_step_of_ext (hyp := True) (an_grows_ext (an_checkStatements_ext _ _ _ h2) (an_grows_ok e3) _ h))
  exact ⟨s.1, fun hb => s.2 ⟨hb.1, trivial⟩ ⟨nofun, nofun⟩⟩

/-! ### consumers of the checked state -/

theorem an_foldl_ok {α β : Type} {f : Outcome β → α → Outcome β} {P : α → Prop}
    (hf : ∀ b a, P a → an_IsOk (f (.ok b) a)) : ∀ (l : List α) (b : β), (∀ a ∈ l, P a) →
    an_IsOk (l.foldl f (.ok b))
  | [], b, _ => an_isOk_ok
  | a :: l, b, h => by
      obtain ⟨b', hb'⟩ := hf b a (h a List.mem_cons_self)
      rw [List.foldl_cons, hb']
      exact an_foldl_ok hf l b' fun x hx => h x (List.mem_cons_of_mem _ hx)

theorem an_getSymbols_ok (st : CState) (hi : an_Inv st) : an_IsOk (getSymbols st) := by
  refine an_foldl_ok (P := fun p => an_Good p.2) (fun b p hp => ?_) st.declared [] hi.1
  obtain ⟨_, hn⟩ := Option.isSome_iff_exists.mp hp.1
  obtain ⟨_, ht⟩ := Option.isSome_iff_exists.mp hp.2
  simp only [hn, ht]
  exact an_isOk_ok

theorem an_resolveVar_good {st : CState} (hi : an_Inv st) {r : Range} {name : String} {d : VarDecl}
    (h : resolveVar st r name = some d) : an_Good d := by
  unfold resolveVar at h
  rw [Option.map_eq_some_iff] at h
  obtain ⟨q, hq, rfl⟩ := h
  exact hi.2 q (List.mem_of_find?_eq_some hq)

theorem an_gotoDefinition_ok (prog : Program) (st : CState) (pos : Pos) (hi : an_Inv st)
    (hh : an_IsOk (hoverOn prog pos)) : an_IsOk (gotoDefinition prog st pos) := by
  obtain ⟨o, ho⟩ := hh
  unfold gotoDefinition
  rw [ho]
  rcases o with _ | ⟨r, name⟩ | ⟨r, fn⟩
  · exact an_isOk_ok
  · dsimp only
    cases hr : resolveVar st r name with
    | none => exact an_isOk_ok
    | some d =>
        obtain ⟨_, hn⟩ := Option.isSome_iff_exists.mp (an_resolveVar_good hi hr).1
        simp only [hn]
        exact an_isOk_ok
  · exact an_isOk_ok

theorem an_lspHover_ok (prog : Program) (st : CState) (pos : Pos) (hi : an_Inv st)
    (hh : an_IsOk (hoverOn prog pos)) : an_IsOk (lspHover prog st pos) := by
  obtain ⟨o, ho⟩ := hh
  unfold lspHover
  rw [ho]
  rcases o with _ | ⟨r, name⟩ | ⟨r, fn⟩
  · exact an_isOk_ok
  · dsimp only
    cases hr : resolveVar st r name with
    | none => exact an_isOk_ok
    | some d =>
        obtain ⟨_, ht⟩ := Option.isSome_iff_exists.mp (an_resolveVar_good hi hr).2
        simp only [ht]
        exact an_isOk_ok
  · dsimp only
    split
    · exact an_isOk_ok
    · split
      · exact an_isOk_ok
      · exact an_isOk_ok

end NS
