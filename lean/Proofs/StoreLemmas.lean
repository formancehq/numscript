/-
  For Properties/C1011.lean: the cache under `cacheMerge`/`cacheEnsure`, the pending query under
  `batchQuery`, the query phase against a faithful store, and the frame property of the statement
  phase (a statement reads the cache only at the pairs its preload lists).
-/
import Spec.StoreSpec
import Proofs.LedgerLemmas

namespace NS

/-! ## Relating two outcomes -/

def sr_ORel {α β : Type} (R : α → β → Prop) : Outcome α → Outcome β → Prop
  | .ok a, .ok b => R a b
  | .err e, .err e' => e = e'
  | .panic s, .panic s' => s = s'
  | _, _ => False

/-- Where `x` and `y` apply one function that unfolds (`parseVars`, `runStatement`, …) use it under
    `with_reducible`: to find `x` in the goal Lean compares it with `y`, and without that unfolds the
    function on both sides before it sees that they differ. -/
@[elab_as_elim]
theorem sr_ORel.elim {α β : Type} {R : α → β → Prop} {x : Outcome α} {y : Outcome β}
    {P : Outcome α → Outcome β → Prop} (h : sr_ORel R x y) (hp : ∀ s, P (.panic s) (.panic s))
    (he : ∀ e, P (.err e) (.err e)) (hok : ∀ a b, R a b → P (.ok a) (.ok b)) : P x y := by
  cases x with
  | ok a =>
    cases y with
    | ok b => exact hok a b h
    | err _ => exact False.elim h
    | panic _ => exact False.elim h
  | err e =>
    cases y with
    | ok _ => exact False.elim h
    | err e' => exact (h : e = e') ▸ he e
    | panic _ => exact False.elim h
  | panic s =>
    cases y with
    | ok _ => exact False.elim h
    | err _ => exact False.elim h
    | panic s' => exact (h : s = s') ▸ hp s

theorem sr_ORel_ite {α β : Type} {R : α → β → Prop} {c : Prop} [Decidable c] {a a' : Outcome α}
    {b b' : Outcome β} (hc : c → sr_ORel R a b) (hn : ¬ c → sr_ORel R a' b') :
    sr_ORel R (if c then a else a') (if c then b else b') := by
  split
  · exact hc ‹_›
  · exact hn ‹_›

theorem sr_ORel_mono {α β : Type} {R R' : α → β → Prop} {x : Outcome α} {y : Outcome β}
    (hr : ∀ a b, R a b → R' a b) (h : sr_ORel R x y) : sr_ORel R' x y :=
  h.elim (fun _ => rfl) (fun _ => rfl) hr

theorem sr_ORel_join {α β γ : Type} {R : α → β → Prop} {S : α → γ → Prop} {x : Outcome α}
    {y : Outcome β} {z : Outcome γ} (h1 : sr_ORel R x y) (h2 : sr_ORel S x z) :
    sr_ORel (fun b c => ∃ a, x = .ok a ∧ R a b ∧ S a c) y z := by
  revert h2
  refine h1.elim (fun s h2 => ?_) (fun e h2 => ?_) fun a b r h2 => ?_
  · cases z <;> exact h2
  · cases z <;> exact h2
  · cases z with
    | ok c => exact ⟨a, rfl, r, h2⟩
    | err _ => exact h2
    | panic _ => exact h2

theorem sr_ORel_refl_ok {α : Type} {R : α → α → Prop} {x : Outcome α}
    (h : ∀ a, x = .ok a → R a a) : sr_ORel R x x := by
  cases x with
  | ok a => exact h a rfl
  | err e => exact rfl
  | panic s => exact rfl

/-- written as a relation of the outcome to itself so that `sr_ORel.elim` and `sr_ORel_ite` apply -/
abbrev sr_OkAll {α : Type} (Q : α → Prop) (o : Outcome α) : Prop := sr_ORel (fun a _ => Q a) o o

@[elab_as_elim]
theorem sr_OkAll.elim {α : Type} {Q : α → Prop} {o : Outcome α} {P : Outcome α → Prop}
    (h : sr_OkAll Q o) (hp : ∀ s, P (.panic s)) (he : ∀ e, P (.err e)) (hok : ∀ a, Q a → P (.ok a)) :
    P o := by
  cases o with
  | ok a => exact hok a h
  | err e => exact he e
  | panic s => exact hp s

theorem sr_OkAll.of_ok {α : Type} {Q : α → Prop} {o : Outcome α} {a : α} (h : sr_OkAll Q o)
    (ho : o = .ok a) : Q a := by
  subst ho
  exact h

/-! ## The cache -/

theorem sr_cacheHas_append (c : Cache) (a s : String) (v : Int) (a' s' : String) :
    cacheHas (c ++ [((a, s), v)]) a' s' = (cacheHas c a' s' || decide ((a, s) = (a', s'))) := by
  simp only [cacheHas, List.any_append, List.any_cons, List.any_nil, Bool.or_false, Bool.beq_eq_decide_eq]

theorem sr_cache_append_ne (c : Cache) {a s a' s' : String} (v : Int) (h : (a, s) ≠ (a', s')) :
    cacheGet (c ++ [((a, s), v)]) a' s' = cacheGet c a' s' ∧
    cacheHas (c ++ [((a, s), v)]) a' s' = cacheHas c a' s' := by
  have h' : ¬ (a' = a ∧ s' = s) := fun e => h (by rw [e.1, e.2])
  rw [sr_cacheHas_append, lg_cacheGet_append, decide_eq_false h, Bool.or_false, if_neg h']
  refine ⟨?_, rfl⟩
  split
  · rfl
  · rename_i hh
    exact (lg_cacheGet_of_not_has c a' s' (Bool.eq_false_iff.mpr hh)).symm

theorem sr_cacheMerge_kept (ans : BalanceAnswer) : ∀ (c : Cache) (a s : String),
    a = WORLD ∨ cacheHas c a s = true →
    cacheGet (cacheMerge c ans) a s = cacheGet c a s ∧
    cacheHas (cacheMerge c ans) a s = cacheHas c a s := by
  induction ans with
  | nil => exact fun _ _ _ _ => ⟨rfl, rfl⟩
  | cons e t ih =>
    intro c a s h
    obtain ⟨⟨a', s'⟩, v⟩ := e
    rw [cacheMerge]
    split
    · exact ih c a s h
    · rename_i hn
      have hk : (a', s') ≠ (a, s) := fun e => hn (by cases e; exact h)
      obtain ⟨hg, hh⟩ := sr_cache_append_ne c v hk
      have := ih (c ++ [((a', s'), v)]) a s (by rw [hh]; exact h)
      rw [hg, hh] at this
      exact this

theorem sr_cacheMerge_of_not_has (ans : BalanceAnswer) : ∀ (c : Cache) (a s : String),
    a ≠ WORLD → cacheHas c a s = false →
    cacheGet (cacheMerge c ans) a s = (ansFind ans a s).getD 0 ∧
    cacheHas (cacheMerge c ans) a s = (ansFind ans a s).isSome := by
  induction ans with
  | nil =>
    intro c a s _ h
    exact ⟨lg_cacheGet_of_not_has c a s h, h⟩
  | cons e t ih =>
    intro c a s ha h
    obtain ⟨⟨a', s'⟩, v⟩ := e
    rw [cacheMerge]
    by_cases hk : (a', s') = (a, s)
    · cases hk
      have hf : ansFind (((a, s), v) :: t) a s = some v := by
        simp only [ansFind, BEq.rfl, List.find?_cons_of_pos, Option.map_some]
      have hc : cacheHas (c ++ [((a, s), v)]) a s = true := by
        rw [sr_cacheHas_append, decide_eq_true rfl, Bool.or_true]
      obtain ⟨hg, hh⟩ := sr_cacheMerge_kept t _ a s (Or.inr hc)
      rw [hf, if_neg (by simp only [ha, h, Bool.false_eq_true, or_self, not_false_eq_true]), hg, hh, hc, lg_cacheGet_append, h]
      simp only [Bool.false_eq_true, if_false, and_self, if_true, Option.getD_some, Option.isSome_some]
    · have hf : ansFind (((a', s'), v) :: t) a s = ansFind t a s := by
        simp only [ansFind, beq_iff_eq, hk, not_false_eq_true, List.find?_cons_of_neg]
      rw [hf]
      apply ih _ a s ha
      split
      · exact h
      · rw [(sr_cache_append_ne c v hk).2]
        exact h

/-! ## The pending query -/

def sr_Pairs (p : BalanceQuery) (a s : String) : Prop := ∃ cs, (a, cs) ∈ p ∧ s ∈ cs

def sr_Sub (p1 p2 : BalanceQuery) : Prop := ∀ a s, sr_Pairs p1 a s → sr_Pairs p2 a s

def sr_NoWorld (p : BalanceQuery) : Prop := ∀ e ∈ p, e.1 ≠ WORLD

theorem sr_batchQuery_noWorld (p : BalanceQuery) (account asset : String) (h : sr_NoWorld p) :
    sr_NoWorld (batchQuery p account asset) := by
  unfold batchQuery
  by_cases hw : account = WORLD
  · rw [if_pos hw]
    exact h
  rw [if_neg hw]
  by_cases hany : (p.any fun e => e.1 == account) = true
  · rw [if_pos hany]
    intro e he
    obtain ⟨e0, he0, rfl⟩ := List.mem_map.mp he
    split <;> exact h e0 he0
  · rw [if_neg hany]
    intro e he
    rcases List.mem_append.mp he with he | he
    · exact h e he
    · rw [List.mem_singleton.mp he]
      exact hw

theorem sr_pairs_map (f : String × List String → String × List String) (p : BalanceQuery)
    (a s : String) : sr_Pairs (p.map f) a s ↔ ∃ e ∈ p, (f e).1 = a ∧ s ∈ (f e).2 := by
  constructor
  · rintro ⟨cs, hmem, hs⟩
    obtain ⟨e, he, hfe⟩ := List.mem_map.mp hmem
    exact ⟨e, he, by rw [hfe], by rw [hfe]; exact hs⟩
  · rintro ⟨e, he, rfl, hs⟩
    exact ⟨_, List.mem_map_of_mem he, hs⟩

theorem sr_pairs_batchQuery (p : BalanceQuery) (account asset a s : String) :
    sr_Pairs (batchQuery p account asset) a s ↔
      (sr_Pairs p a s ∨ (account ≠ WORLD ∧ a = account ∧ s = asset)) := by
  unfold batchQuery
  by_cases hw : account = WORLD
  · simp only [hw, if_true, ne_eq, not_true, false_and, or_false]
  simp only [ne_eq, hw, not_false_eq_true, true_and, if_false]
  by_cases hany : p.any (fun e => e.1 == account) = true
  · -- what the `map` does to one entry
    have hf : ∀ e : String × List String,
        (if e.1 == account ∧ ¬ e.2.contains asset then (e.1, e.2 ++ [asset]) else e).1 = e.1 ∧
        (s ∈ (if e.1 == account ∧ ¬ e.2.contains asset then (e.1, e.2 ++ [asset]) else e).2 ↔
          s ∈ e.2 ∨ (e.1 = account ∧ s = asset)) := by
      intro e
      split
      · rename_i hc
        exact ⟨rfl, by simp only [List.mem_append, List.mem_singleton, beq_iff_eq.mp hc.1, true_and]⟩
      · rename_i hc
        refine ⟨rfl, Or.inl, fun h => h.elim id ?_⟩
        rintro ⟨h1, rfl⟩
        exact List.contains_iff_mem.mp (Decidable.not_not.mp fun hn => hc ⟨beq_iff_eq.mpr h1, hn⟩)
    rw [if_pos hany, sr_pairs_map]
    simp only [hf]
    constructor
    · rintro ⟨e, he, rfl, h | h⟩
      · exact Or.inl ⟨e.2, he, h⟩
      · exact Or.inr h
    · rintro (⟨cs, hmem, hs⟩ | ⟨rfl, rfl⟩)
      · exact ⟨(a, cs), hmem, rfl, Or.inl hs⟩
      · obtain ⟨e, he, hacc⟩ := List.any_eq_true.mp hany
        exact ⟨e, he, beq_iff_eq.mp hacc, Or.inr ⟨beq_iff_eq.mp hacc, rfl⟩⟩
  · rw [if_neg hany]
    constructor
    · rintro ⟨cs, hmem, hs⟩
      rcases List.mem_append.mp hmem with hmem | hmem
      · exact Or.inl ⟨cs, hmem, hs⟩
      · cases List.mem_singleton.mp hmem
        exact Or.inr ⟨rfl, List.mem_singleton.mp hs⟩
    · rintro (⟨cs, hmem, hs⟩ | ⟨rfl, rfl⟩)
      · exact ⟨cs, List.mem_append_left _ hmem, hs⟩
      · exact ⟨[s], List.mem_append_right _ (List.mem_singleton.mpr rfl), List.mem_singleton.mpr rfl⟩

theorem sr_pairs_batchQuery_self (p : BalanceQuery) {account : String} (asset : String)
    (hw : account ≠ WORLD) : sr_Pairs (batchQuery p account asset) account asset :=
  (sr_pairs_batchQuery p account asset account asset).mpr (Or.inr ⟨hw, rfl, rfl⟩)

theorem sr_sub_refl (p : BalanceQuery) : sr_Sub p p := fun _ _ h => h

theorem sr_sub_nil (p : BalanceQuery) : sr_Sub [] p := by
  rintro a s ⟨cs, h, _⟩
  cases h

theorem sr_sub_batchQuery_right {p1 p2 : BalanceQuery} (account asset : String) (h : sr_Sub p1 p2) :
    sr_Sub p1 (batchQuery p2 account asset) :=
  fun a s hp => (sr_pairs_batchQuery p2 account asset a s).mpr (Or.inl (h a s hp))

theorem sr_sub_batchQuery_both {p1 p2 : BalanceQuery} (account asset : String) (h : sr_Sub p1 p2) :
    sr_Sub (batchQuery p1 account asset) (batchQuery p2 account asset) := by
  intro a s hp
  rw [sr_pairs_batchQuery] at hp ⊢
  rcases hp with hp | hp
  · exact Or.inl (h a s hp)
  · exact Or.inr hp

/-! ## The query phase against a faithful store -/

def sr_CacheOK (ct : Content) (c : Cache) : Prop :=
  (∀ a s, a ≠ WORLD → cacheHas c a s = true → cacheGet c a s = ct.bal a s) ∧
  (∀ s, cacheGet c WORLD s = 0)

theorem sr_cacheOK_nil (ct : Content) : sr_CacheOK ct [] :=
  ⟨fun _ _ _ h => (by cases h), fun _ => rfl⟩

theorem sr_cacheMerge_faithful (ct : Content) (q : BalanceQuery) (c : Cache) (ans : BalanceAnswer)
    (hf : FaithfulAnswer ct q ans)
    (hc : ∀ a s, a ≠ WORLD → cacheHas c a s = true → cacheGet c a s = ct.bal a s) :
    ∀ a s, a ≠ WORLD → cacheHas (cacheMerge c ans) a s = true →
      cacheGet (cacheMerge c ans) a s = ct.bal a s := by
  intro a s ha hh
  by_cases h : cacheHas c a s = true
  · rw [(sr_cacheMerge_kept ans c a s (Or.inr h)).1]
    exact hc a s ha h
  · have h' : cacheHas c a s = false := Bool.eq_false_iff.mpr h
    obtain ⟨h1, h2⟩ := sr_cacheMerge_of_not_has ans c a s ha h'
    rw [h2] at hh
    rw [h1]
    cases hfind : ansFind ans a s with
    | none => rw [hfind] at hh; cases hh
    | some v => exact hf.1 a s v hfind

def sr_balVal (ct : Content) (a s : String) : Int := if a = WORLD then 0 else ct.bal a s

theorem sr_runBalancesQuery_faithful (store : Store) (ct : Content) (hf : Faithful store ct) (q : QState)
    (hc : sr_CacheOK ct q.cache) :
    ∃ q', runBalancesQuery store q = .ok q' ∧ sr_CacheOK ct q'.cache ∧
      ∀ a s, a ≠ WORLD → sr_Pairs q.pending a s →
        cacheGet q'.cache a s = ct.bal a s ∧ (cacheHas q'.cache a s = true ∨ ct.bal a s = 0) := by
  have hfil : ∀ a cs s, (a, cs) ∈ q.pending → s ∈ cs → cacheHas q.cache a s = false →
      (a, cs) ∈ q.pending.filter (fun p => p.2.any (fun c => ! cacheHas q.cache p.1 c)) :=
    fun a cs s hmem hs hh =>
      List.mem_filter.mpr ⟨hmem, List.any_eq_true.mpr ⟨s, hs, by rw [hh]; rfl⟩⟩
  unfold runBalancesQuery
  dsimp only
  split
  · rename_i hemp
    refine ⟨q, rfl, hc, ?_⟩
    rintro a s ha ⟨cs, hmem, hs⟩
    cases hh : cacheHas q.cache a s
    · have := hfil a cs s hmem hs hh
      rw [List.isEmpty_iff.mp hemp] at this
      cases this
    · exact ⟨hc.1 a s ha hh, Or.inl rfl⟩
  · obtain ⟨ans, hans, hfa⟩ := hf.1 q.calls
      (q.pending.filter (fun p => p.2.any (fun c => ! cacheHas q.cache p.1 c)))
    rw [hans]
    refine ⟨_, rfl, ⟨sr_cacheMerge_faithful ct _ q.cache ans hfa hc.1, fun s => ?_⟩, ?_⟩
    · dsimp only
      rw [(sr_cacheMerge_kept ans q.cache WORLD s (Or.inl rfl)).1]
      exact hc.2 s
    · rintro a s ha ⟨cs, hmem, hs⟩
      dsimp only
      cases hh : cacheHas q.cache a s
      · obtain ⟨h1, h2⟩ := sr_cacheMerge_of_not_has ans q.cache a s ha hh
        rw [h1, h2]
        cases hfind : ansFind ans a s with
        | none => exact ⟨(hfa.2 a cs (hfil a cs s hmem hs hh) s hs hfind).symm, Or.inr
            (hfa.2 a cs (hfil a cs s hmem hs hh) s hs hfind)⟩
        | some v => exact ⟨hfa.1 a s v hfind, Or.inl rfl⟩
      · obtain ⟨h1, h2⟩ := sr_cacheMerge_kept ans q.cache a s (Or.inr hh)
        rw [h1, h2, hh]
        exact ⟨hc.1 a s ha hh, Or.inl rfl⟩

theorem sr_cacheOK_ensure (ct : Content) (c : Cache) (a s : String) (hc : sr_CacheOK ct c)
    (h0 : a ≠ WORLD → cacheHas c a s = true ∨ ct.bal a s = 0) :
    sr_CacheOK ct (cacheEnsure c a s) := by
  unfold cacheEnsure
  split
  · exact hc
  rename_i hh
  have hh' : cacheHas c a s = false := Bool.eq_false_iff.mpr hh
  constructor
  · intro a' s' ha' hhas
    by_cases hk : (a, s) = (a', s')
    · cases hk
      rw [lg_cacheGet_append, hh', (h0 ha').resolve_left hh]
      simp only [Bool.false_eq_true, if_false, and_self, if_true]
    · obtain ⟨hg, hhs⟩ := sr_cache_append_ne c 0 hk
      rw [hg]
      exact hc.1 a' s' ha' (hhs ▸ hhas)
  · intro s'
    rw [lg_cacheGet_append]
    split
    · exact hc.2 s'
    · split <;> rfl

theorem sr_getBalance_faithful (store : Store) (ct : Content) (hf : Faithful store ct) (q : QState)
    (hc : sr_CacheOK ct q.cache) (a s : String) :
    ∃ q', getBalance store q a s = .ok (sr_balVal ct a s, q') ∧ sr_CacheOK ct q'.cache := by
  unfold getBalance
  dsimp only
  obtain ⟨q2, hq2, hc2, hp2⟩ := sr_runBalancesQuery_faithful store ct hf
    { q with pending := batchQuery q.pending a s } hc
  have hp := fun ha : a ≠ WORLD => hp2 a s ha (sr_pairs_batchQuery_self q.pending s ha)
  have hval : cacheGet q2.cache a s = sr_balVal ct a s := by
    unfold sr_balVal
    split
    · rename_i ha
      rw [ha]
      exact hc2.2 s
    · exact (hp ‹_›).1
  rw [hq2]
  dsimp only
  exact ⟨_, by rw [hval], sr_cacheOK_ensure ct q2.cache a s hc2 fun ha => (hp ha).2⟩

/-! ## The variable phase against two faithful stores -/

def sr_VarRel (ct : Content) {α : Type} (x y : α × QState) : Prop :=
  x.1 = y.1 ∧ sr_CacheOK ct x.2.cache ∧ sr_CacheOK ct y.2.cache

theorem sr_handleOrigin_rel {s1 s2 : Store} {ct : Content} (h1 : Faithful s1 ct) (h2 : Faithful s2 ct)
    (flag : Bool) (vars : Vars) {q1 q2 : QState} (hc1 : sr_CacheOK ct q1.cache)
    (hc2 : sr_CacheOK ct q2.cache) (ty : String) (fn : FnCall) :
    sr_ORel (sr_VarRel ct) (handleOrigin s1 flag vars q1 ty fn) (handleOrigin s2 flag vars q2 ty fn) := by
  have hbal : ∀ account asset, ∃ q1' q2',
      getBalance s1 q1 account asset = .ok (sr_balVal ct account asset, q1') ∧
      getBalance s2 q2 account asset = .ok (sr_balVal ct account asset, q2') ∧
      sr_CacheOK ct q1'.cache ∧ sr_CacheOK ct q2'.cache := fun account asset =>
    have ⟨q1', hq1, hc1'⟩ := sr_getBalance_faithful s1 ct h1 q1 hc1 account asset
    have ⟨q2', hq2, hc2'⟩ := sr_getBalance_faithful s2 ct h2 q2 hc2 account asset
    ⟨q1', q2', hq1, hq2, hc1', hc2'⟩
  unfold handleOrigin
  cases evalExprs vars fn.args with
  | panic _ => exact rfl
  | err _ => exact rfl
  | ok args =>
  refine sr_ORel_ite (fun _ => ?_) fun _ => sr_ORel_ite (fun _ => ?_) fun _ =>
    sr_ORel_ite (fun _ => ?_) fun _ => rfl
  · cases parseArgs2 args expectAccount expectString with
    | panic _ => exact rfl
    | err _ => exact rfl
    | ok r =>
    obtain ⟨a1, ha1, hl1⟩ := h1.2 q1.calls r.1 r.2
    obtain ⟨a2, ha2, hl2⟩ := h2.2 q2.calls r.1 r.2
    simp only [ha1, ha2, hl1, hl2]
    cases ct.meta_ r.1 r.2 with
    | none => exact rfl
    | some raw =>
    dsimp only
    cases parseVar ty raw with
    | panic _ => exact rfl
    | err _ => exact rfl
    | ok v => exact ⟨rfl, hc1, hc2⟩
  · cases parseArgs2 args expectAccount expectAsset with
    | panic _ => exact rfl
    | err _ => exact rfl
    | ok r =>
    obtain ⟨q1', q2', hq1, hq2, hc'⟩ := hbal r.1 r.2
    simp only [hq1, hq2]
    exact sr_ORel_ite (fun _ => rfl) fun _ => ⟨rfl, hc'⟩
  · refine sr_ORel_ite (fun _ => rfl) fun _ => ?_
    cases parseArgs2 args expectAccount expectAsset with
    | panic _ => exact rfl
    | err _ => exact rfl
    | ok r =>
    obtain ⟨q1', q2', hq1, hq2, hc'⟩ := hbal r.1 r.2
    simp only [hq1, hq2]
    split
    · exact ⟨rfl, hc'⟩
    · exact ⟨rfl, hc'⟩

theorem sr_parseVars_sim {s1 s2 : Store} (flag : Bool) (rawVars : List (String × String))
    (Rq : QState → QState → Prop)
    (hO : ∀ vars q1 q2 ty fn, Rq q1 q2 → sr_ORel (fun x y => x.1 = y.1 ∧ Rq x.2 y.2)
      (handleOrigin s1 flag vars q1 ty fn) (handleOrigin s2 flag vars q2 ty fn)) :
    ∀ (decls : List VarDecl) (vars : Vars) (q1 q2 : QState), Rq q1 q2 →
    sr_ORel (fun x y => x.1 = y.1 ∧ Rq x.2 y.2) (parseVars s1 flag rawVars decls vars q1)
      (parseVars s2 flag rawVars decls vars q2)
  | [], vars, q1, q2, hq => by
      rw [parseVars, parseVars]
      exact ⟨rfl, hq⟩
  | d :: rest, vars, q1, q2, hq => by
      have ih := sr_parseVars_sim flag rawVars Rq hO rest
      rw [parseVars, parseVars]
      cases d.name with
      | none => exact rfl
      | some name =>
      cases d.type with
      | none => exact rfl
      | some ty =>
      dsimp only
      cases d.origin with
      | none =>
        dsimp only
        cases (rawVars.find? (fun p => p.1 == name.2)).map (·.2) with
        | none => exact rfl
        | some raw =>
        dsimp only
        cases parseVar ty.2 raw with
        | panic _ => exact rfl
        | err _ => exact rfl
        | ok v => exact ih _ q1 q2 hq
      | some fn =>
        dsimp only
        with_reducible refine (hO vars q1 q2 ty.2 fn hq).elim ?_ ?_ ?_
        · exact fun _ => rfl
        · exact fun _ => rfl
        rintro ⟨v, q1'⟩ ⟨_, q2'⟩ ⟨rfl, hq'⟩
        exact ih _ q1' q2' hq'

theorem sr_parseVars_rel {s1 s2 : Store} {ct : Content} (h1 : Faithful s1 ct) (h2 : Faithful s2 ct)
    (flag : Bool) (rawVars : List (String × String)) (decls : List VarDecl) (vars : Vars)
    (q1 q2 : QState) (hc1 : sr_CacheOK ct q1.cache) (hc2 : sr_CacheOK ct q2.cache) :
    sr_ORel (sr_VarRel ct) (parseVars s1 flag rawVars decls vars q1)
      (parseVars s2 flag rawVars decls vars q2) :=
  sr_parseVars_sim flag rawVars (fun q1 q2 => sr_CacheOK ct q1.cache ∧ sr_CacheOK ct q2.cache)
    (fun vars _ _ ty fn hq => sr_handleOrigin_rel h1 h2 flag vars hq.1 hq.2 ty fn) decls vars q1 q2
    ⟨hc1, hc2⟩

/-! ## Preloading: `findBalancesQueries*` only ever apply `batchQuery` -/

mutual
  theorem sr_find_rel (Rl : BalanceQuery → BalanceQuery → Prop)
      (hR : ∀ p1 p2 a s, Rl p1 p2 → Rl (batchQuery p1 a s) (batchQuery p2 a s))
      (vars : Vars) (asset : String) : ∀ (src : Source) (p1 p2 : BalanceQuery), Rl p1 p2 →
      sr_ORel Rl (findBalancesQueries vars asset src p1) (findBalancesQueries vars asset src p2)
    | .nil, p1, p2, _ => by
        simp only [findBalancesQueries]
        exact rfl
    | .account e, p1, p2, h => by
        simp only [findBalancesQueries]
        cases evalAs vars e expectAccount with
        | panic _ => exact rfl
        | err _ => exact rfl
        | ok _ => exact hR _ _ _ _ h
    | .overdraft _ _ none, p1, p2, h => by
        simp only [findBalancesQueries]
        exact h
    | .overdraft _ addr (some _), p1, p2, h => by
        simp only [findBalancesQueries]
        cases evalAs vars addr expectAccount with
        | panic _ => exact rfl
        | err _ => exact rfl
        | ok _ => exact hR _ _ _ _ h
    | .inorder _ srcs, p1, p2, h => by
        simp only [findBalancesQueries]
        exact sr_findList_rel Rl hR vars asset srcs p1 p2 h
    | .capped _ _ src, p1, p2, h => by
        simp only [findBalancesQueries]
        exact sr_find_rel Rl hR vars asset src p1 p2 h
    | .allotment _ items, p1, p2, h => by
        simp only [findBalancesQueries]
        exact sr_findItems_rel Rl hR vars asset items p1 p2 h

  theorem sr_findList_rel (Rl : BalanceQuery → BalanceQuery → Prop)
      (hR : ∀ p1 p2 a s, Rl p1 p2 → Rl (batchQuery p1 a s) (batchQuery p2 a s))
      (vars : Vars) (asset : String) : ∀ (srcs : List Source) (p1 p2 : BalanceQuery), Rl p1 p2 →
      sr_ORel Rl (findQueriesList vars asset srcs p1) (findQueriesList vars asset srcs p2)
    | [], p1, p2, h => by
        simp only [findQueriesList]
        exact h
    | s :: ss, p1, p2, h => by
        simp only [findQueriesList]
        exact (sr_find_rel Rl hR vars asset s p1 p2 h).elim (fun _ => rfl) (fun _ => rfl)
          (sr_findList_rel Rl hR vars asset ss)

  theorem sr_findItems_rel (Rl : BalanceQuery → BalanceQuery → Prop)
      (hR : ∀ p1 p2 a s, Rl p1 p2 → Rl (batchQuery p1 a s) (batchQuery p2 a s))
      (vars : Vars) (asset : String) : ∀ (items : List SrcItem) (p1 p2 : BalanceQuery), Rl p1 p2 →
      sr_ORel Rl (findQueriesItems vars asset items p1) (findQueriesItems vars asset items p2)
    | [], p1, p2, h => by
        simp only [findQueriesItems]
        exact h
    | (.mk _ _ s) :: ss, p1, p2, h => by
        simp only [findQueriesItems]
        exact (sr_find_rel Rl hR vars asset s p1 p2 h).elim (fun _ => rfl) (fun _ => rfl)
          (sr_findItems_rel Rl hR vars asset ss)
end

theorem sr_findStmt_rel (Rl : BalanceQuery → BalanceQuery → Prop)
    (hR : ∀ p1 p2 a s, Rl p1 p2 → Rl (batchQuery p1 a s) (batchQuery p2 a s))
    (vars : Vars) (st : Statement) (p1 p2 : BalanceQuery) (h : Rl p1 p2) :
    sr_ORel Rl (findBalancesQueriesInStatement vars st p1) (findBalancesQueriesInStatement vars st p2) := by
  cases st with
  | nil => exact rfl
  | fnCallNil => exact h
  | fnCall _ => exact h
  | save _ sv amount =>
    simp only [findBalancesQueriesInStatement]
    split
    · exact rfl
    · exact rfl
    split
    · exact rfl
    · exact rfl
    · exact hR _ _ _ _ h
  | send _ sv src _ =>
    simp only [findBalancesQueriesInStatement]
    split
    · exact rfl
    · exact rfl
    · exact sr_find_rel Rl hR vars _ src p1 p2 h

theorem sr_preload_rel (Rl : BalanceQuery → BalanceQuery → Prop)
    (hR : ∀ p1 p2 a s, Rl p1 p2 → Rl (batchQuery p1 a s) (batchQuery p2 a s))
    (vars : Vars) : ∀ (stmts : List Statement) (p1 p2 : BalanceQuery), Rl p1 p2 →
    sr_ORel Rl (preload vars stmts p1) (preload vars stmts p2)
  | [], p1, p2, h => by
      simp only [preload]
      exact h
  | s :: ss, p1, p2, h => by
      simp only [preload]
      with_reducible refine (sr_findStmt_rel Rl hR vars s p1 p2 h).elim ?_ ?_ ?_
      · exact fun _ => rfl
      · exact fun _ => rfl
      · exact sr_preload_rel Rl hR vars ss

theorem sr_preload_nil (vars : Vars) (stmts : List Statement) (p : BalanceQuery) :
    sr_ORel sr_Sub (preload vars stmts []) (preload vars stmts p) :=
  sr_preload_rel sr_Sub (fun _ _ a s => sr_sub_batchQuery_both a s) vars stmts [] p (sr_sub_nil p)

theorem sr_find_sub (vars : Vars) (asset : String) (src : Source) (p p' : BalanceQuery)
    (h : findBalancesQueries vars asset src p = .ok p') : sr_Sub p p' :=
  sr_OkAll.of_ok (sr_find_rel (fun p1 _ => sr_Sub p p1) (fun _ _ a s => sr_sub_batchQuery_right a s)
    vars asset src p p (sr_sub_refl p)) h

theorem sr_findList_sub (vars : Vars) (asset : String) (srcs : List Source) (p p' : BalanceQuery)
    (h : findQueriesList vars asset srcs p = .ok p') : sr_Sub p p' :=
  sr_OkAll.of_ok (sr_findList_rel (fun p1 _ => sr_Sub p p1) (fun _ _ a s => sr_sub_batchQuery_right a s)
    vars asset srcs p p (sr_sub_refl p)) h

theorem sr_findItems_sub (vars : Vars) (asset : String) (items : List SrcItem) (p p' : BalanceQuery)
    (h : findQueriesItems vars asset items p = .ok p') : sr_Sub p p' :=
  sr_OkAll.of_ok (sr_findItems_rel (fun p1 _ => sr_Sub p p1) (fun _ _ a s => sr_sub_batchQuery_right a s)
    vars asset items p p (sr_sub_refl p)) h

theorem sr_preload_sub (vars : Vars) (stmts : List Statement) (p p' : BalanceQuery)
    (h : preload vars stmts p = .ok p') : sr_Sub p p' :=
  sr_OkAll.of_ok (sr_preload_rel (fun p1 _ => sr_Sub p p1) (fun _ _ a s => sr_sub_batchQuery_right a s)
    vars stmts p p (sr_sub_refl p)) h

theorem sr_preload_noWorld (vars : Vars) (stmts : List Statement) (p p' : BalanceQuery)
    (hp : sr_NoWorld p) (h : preload vars stmts p = .ok p') : sr_NoWorld p' :=
  sr_OkAll.of_ok (sr_preload_rel (fun p1 _ => sr_NoWorld p1) (fun p1 _ a s => sr_batchQuery_noWorld p1 a s)
    vars stmts p p hp) h

/-! ## The statement phase reads the cache only where the preload asked -/

def sr_AgreeQ (p : BalanceQuery) (c1 c2 : Cache) : Prop :=
  ∀ a s, a ≠ WORLD → sr_Pairs p a s → cacheGet c1 a s = cacheGet c2 a s

theorem sr_agreeQ_sub {p p' : BalanceQuery} {c1 c2 : Cache} (hs : sr_Sub p p') (h : sr_AgreeQ p' c1 c2) :
    sr_AgreeQ p c1 c2 := fun a s ha hp => h a s ha (hs a s hp)

/-- the query of a source that names an account requests that account -/
theorem sr_agreeQ_account {vars : Vars} {asset : String} {addr : Expr} {p p' : BalanceQuery}
    {c1 c2 : Cache}
    (hf : (match evalAs vars addr expectAccount with
      | .panic s => .panic s
      | .err e => .err e
      | .ok account => .ok (batchQuery p account asset)) = Outcome.ok p')
    (hag : sr_AgreeQ p' c1 c2) (account : String) (hev : evalAs vars addr expectAccount = .ok account)
    (hw : account ≠ WORLD) : cacheGet c1 account asset = cacheGet c2 account asset := by
  rw [hev] at hf
  cases hf
  exact hag account asset hw (sr_pairs_batchQuery_self p asset hw)

theorem sr_trySendingToAccount_frame (vars : Vars) (asset : String) (c1 c2 : Cache) (addr : Expr)
    (amount : Int) (od : Option Int) (snd : Senders)
    (h : od ≠ none → ∀ account, evalAs vars addr expectAccount = .ok account → account ≠ WORLD →
      cacheGet c1 account asset = cacheGet c2 account asset) :
    trySendingToAccount ⟨vars, c1, asset⟩ addr amount od snd =
      trySendingToAccount ⟨vars, c2, asset⟩ addr amount od snd := by
  unfold trySendingToAccount
  dsimp only
  split
  · rfl
  · rfl
  rename_i account hev
  by_cases hw : account = WORLD
  · simp only [hw, if_true]
  simp only [hw, if_false]
  cases od with
  | none => rfl
  | some o => simp only [availableFunds, h nofun account hev hw]

theorem sr_sendAllToAccount_frame (vars : Vars) (asset : String) (c1 c2 : Cache) (addr : Expr)
    (od : Option Int) (snd : Senders)
    (h : od ≠ none → ∀ account, evalAs vars addr expectAccount = .ok account → account ≠ WORLD →
      cacheGet c1 account asset = cacheGet c2 account asset) :
    sendAllToAccount ⟨vars, c1, asset⟩ addr od snd = sendAllToAccount ⟨vars, c2, asset⟩ addr od snd := by
  unfold sendAllToAccount
  dsimp only
  split
  · rfl
  · rfl
  rename_i account hev
  cases od with
  | none => rfl
  | some o =>
    by_cases hw : account = WORLD
    · simp only [hw, if_true]
    · simp only [hw, if_false, availableFunds, h nofun account hev hw]

mutual
  theorem sr_trySendingUpTo_frame (vars : Vars) (asset : String) (c1 c2 : Cache) :
      ∀ (src : Source) (p p' : BalanceQuery) (amount : Int) (snd : Senders),
      findBalancesQueries vars asset src p = .ok p' → sr_AgreeQ p' c1 c2 →
      trySendingUpTo ⟨vars, c1, asset⟩ src amount snd = trySendingUpTo ⟨vars, c2, asset⟩ src amount snd
    | .nil, _, _, _, _, _, _ => by
        simp only [trySendingUpTo]
    | .account e, p, p', amount, snd, hf, hag => by
        rw [findBalancesQueries] at hf
        simp only [trySendingUpTo]
        exact sr_trySendingToAccount_frame vars asset c1 c2 e amount _ snd fun _ =>
          sr_agreeQ_account hf hag
    | .overdraft _ addr none, _, _, amount, snd, _, _ => by
        simp only [trySendingUpTo]
        exact sr_trySendingToAccount_frame vars asset c1 c2 addr amount none snd fun h => absurd rfl h
    | .overdraft _ addr (some b), p, p', amount, snd, hf, hag => by
        rw [findBalancesQueries] at hf
        simp only [trySendingUpTo, fun od => sr_trySendingToAccount_frame vars asset c1 c2 addr amount od
          snd fun _ => sr_agreeQ_account hf hag]
    | .inorder _ srcs, p, p', amount, snd, hf, hag => by
        rw [findBalancesQueries] at hf
        simp only [trySendingUpTo, sr_sendInorder_frame vars asset c1 c2 srcs p p' amount snd hf hag]
    | .allotment _ items, p, p', amount, snd, hf, hag => by
        rw [findBalancesQueries] at hf
        simp only [trySendingUpTo,
          fun parts => sr_sendAllotItems_frame vars asset c1 c2 items p p' parts snd hf hag]
    | .capped _ cap src, p, p', amount, snd, hf, hag => by
        rw [findBalancesQueries] at hf
        simp only [trySendingUpTo,
          fun a => sr_trySendingUpTo_frame vars asset c1 c2 src p p' a snd hf hag]

  theorem sr_sendInorder_frame (vars : Vars) (asset : String) (c1 c2 : Cache) :
      ∀ (srcs : List Source) (p p' : BalanceQuery) (left : Int) (snd : Senders),
      findQueriesList vars asset srcs p = .ok p' → sr_AgreeQ p' c1 c2 →
      sendInorder ⟨vars, c1, asset⟩ srcs left snd = sendInorder ⟨vars, c2, asset⟩ srcs left snd
    | [], _, _, _, _, _, _ => by
        simp only [sendInorder]
    | s :: ss, p, p', left, snd, hf, hag => by
        rw [findQueriesList] at hf
        split at hf
        · cases hf
        · cases hf
        rename_i p1 hx
        simp only [sendInorder,
          sr_trySendingUpTo_frame vars asset c1 c2 s p p1 left snd hx
            (sr_agreeQ_sub (sr_findList_sub vars asset ss p1 p' hf) hag),
          fun a sd => sr_sendInorder_frame vars asset c1 c2 ss p1 p' a sd hf hag]

  theorem sr_sendAllotItems_frame (vars : Vars) (asset : String) (c1 c2 : Cache) :
      ∀ (items : List SrcItem) (p p' : BalanceQuery) (parts : List Int) (snd : Senders),
      findQueriesItems vars asset items p = .ok p' → sr_AgreeQ p' c1 c2 →
      sendAllotItems ⟨vars, c1, asset⟩ items parts snd = sendAllotItems ⟨vars, c2, asset⟩ items parts snd
    | [], _, _, _, _, _, _ => by
        simp only [sendAllotItems]
    | _ :: _, _, _, [], _, _, _ => by
        simp only [sendAllotItems]
    | (.mk _ _ s) :: ss, p, p', pt :: pts, snd, hf, hag => by
        rw [findQueriesItems] at hf
        split at hf
        · cases hf
        · cases hf
        rename_i p1 hx
        simp only [sendAllotItems,
          sr_trySendingUpTo_frame vars asset c1 c2 s p p1 pt snd hx
            (sr_agreeQ_sub (sr_findItems_sub vars asset ss p1 p' hf) hag),
          fun sd => sr_sendAllotItems_frame vars asset c1 c2 ss p1 p' pts sd hf hag]
end

mutual
  theorem sr_sendAll_frame (vars : Vars) (asset : String) (c1 c2 : Cache) :
      ∀ (src : Source) (p p' : BalanceQuery) (snd : Senders),
      findBalancesQueries vars asset src p = .ok p' → sr_AgreeQ p' c1 c2 →
      sendAll ⟨vars, c1, asset⟩ src snd = sendAll ⟨vars, c2, asset⟩ src snd
    | .nil, _, _, _, _, _ => by
        simp only [sendAll]
    | .account e, p, p', snd, hf, hag => by
        rw [findBalancesQueries] at hf
        simp only [sendAll]
        exact sr_sendAllToAccount_frame vars asset c1 c2 e _ snd fun _ => sr_agreeQ_account hf hag
    | .overdraft _ addr none, _, _, snd, _, _ => by
        simp only [sendAll]
        exact sr_sendAllToAccount_frame vars asset c1 c2 addr none snd fun h => absurd rfl h
    | .overdraft _ addr (some b), p, p', snd, hf, hag => by
        rw [findBalancesQueries] at hf
        simp only [sendAll, fun od => sr_sendAllToAccount_frame vars asset c1 c2 addr od snd
          fun _ => sr_agreeQ_account hf hag]
    | .inorder _ srcs, p, p', snd, hf, hag => by
        rw [findBalancesQueries] at hf
        simp only [sendAll]
        exact sr_sendAllList_frame vars asset c1 c2 srcs p p' 0 snd hf hag
    | .capped _ cap src, p, p', snd, hf, hag => by
        rw [findBalancesQueries] at hf
        simp only [sendAll, fun a => sr_trySendingUpTo_frame vars asset c1 c2 src p p' a snd hf hag]
    | .allotment _ _, _, _, _, _, _ => by
        simp only [sendAll]

  theorem sr_sendAllList_frame (vars : Vars) (asset : String) (c1 c2 : Cache) :
      ∀ (srcs : List Source) (p p' : BalanceQuery) (total : Int) (snd : Senders),
      findQueriesList vars asset srcs p = .ok p' → sr_AgreeQ p' c1 c2 →
      sendAllList ⟨vars, c1, asset⟩ srcs total snd = sendAllList ⟨vars, c2, asset⟩ srcs total snd
    | [], _, _, _, _, _, _ => by
        simp only [sendAllList]
    | s :: ss, p, p', total, snd, hf, hag => by
        rw [findQueriesList] at hf
        split at hf
        · cases hf
        · cases hf
        rename_i p1 hx
        simp only [sendAllList,
          sr_sendAll_frame vars asset c1 c2 s p p1 snd hx
            (sr_agreeQ_sub (sr_findList_sub vars asset ss p1 p' hf) hag),
          fun a sd => sr_sendAllList_frame vars asset c1 c2 ss p1 p' a sd hf hag]
end

/-! ### destinations never read the cache -/

mutual
  theorem sr_receiveFrom_frame (vars : Vars) (asset : String) (c1 c2 : Cache) :
      ∀ (d : Dest) (amount : Int) (rcv : Receivers),
      receiveFrom ⟨vars, c1, asset⟩ d amount rcv = receiveFrom ⟨vars, c2, asset⟩ d amount rcv
    | .nil, _, _ => by
        simp only [receiveFrom]
    | .account e, _, _ => by
        simp only [receiveFrom]
    | .allotment _ items, _, _ => by
        simp only [receiveFrom, sr_receiveAllotItems_frame vars asset c1 c2 items]
    | .inorder _ clauses remaining, _, _ => by
        simp only [receiveFrom, sr_receiveClauses_frame vars asset c1 c2 clauses,
          sr_receiveKoD_frame vars asset c1 c2 remaining]

  theorem sr_receiveKoD_frame (vars : Vars) (asset : String) (c1 c2 : Cache) :
      ∀ (k : KoD) (amount : Int) (rcv : Receivers),
      receiveKoD ⟨vars, c1, asset⟩ k amount rcv = receiveKoD ⟨vars, c2, asset⟩ k amount rcv
    | .nil, _, _ => by
        simp only [receiveKoD]
    | .kept _, _, _ => by
        simp only [receiveKoD]
    | .to d, _, _ => by
        simp only [receiveKoD, sr_receiveFrom_frame vars asset c1 c2 d]

  theorem sr_receiveClauses_frame (vars : Vars) (asset : String) (c1 c2 : Cache) :
      ∀ (cl : List DestClause) (left : Int) (rcv : Receivers),
      receiveClauses ⟨vars, c1, asset⟩ cl left rcv = receiveClauses ⟨vars, c2, asset⟩ cl left rcv
    | [], _, _ => by
        simp only [receiveClauses]
    | (.mk _ cap to) :: rest, _, _ => by
        simp only [receiveClauses, sr_receiveKoD_frame vars asset c1 c2 to,
          sr_receiveClauses_frame vars asset c1 c2 rest]

  theorem sr_receiveAllotItems_frame (vars : Vars) (asset : String) (c1 c2 : Cache) :
      ∀ (items : List DestItem) (parts : List Int) (rcv : Receivers),
      receiveAllotItems ⟨vars, c1, asset⟩ items parts rcv =
        receiveAllotItems ⟨vars, c2, asset⟩ items parts rcv
    | [], _, _ => by
        simp only [receiveAllotItems]
    | _ :: _, [], _ => by
        simp only [receiveAllotItems]
    | (.mk _ _ to) :: rest, pt :: pts, _ => by
        simp only [receiveAllotItems, sr_receiveKoD_frame vars asset c1 c2 to,
          sr_receiveAllotItems_frame vars asset c1 c2 rest]
end

/-! ### statements -/

theorem sr_applyPostings_pw (ps : List Posting) : ∀ (c1 c2 : Cache) (a s : String),
    cacheGet c1 a s = cacheGet c2 a s →
    cacheGet (applyPostings c1 ps) a s = cacheGet (applyPostings c2 ps) a s := by
  induction ps with
  | nil => intro c1 c2 a s h; exact h
  | cons p t ih =>
    intro c1 c2 a s h
    simp only [applyPostings]
    apply ih
    have e := fun c => congrFun (congrFun (lg_balOfCache_step c p) a) s
    simp only [balOfCache, applyPosting] at e
    rw [e, e, h]

def sr_StRel (c1 c2 : Cache) (x y : List Posting × RState) : Prop :=
  x.1 = y.1 ∧ x.2.txMeta = y.2.txMeta ∧ x.2.accMeta = y.2.accMeta ∧
  ∀ a s, cacheGet c1 a s = cacheGet c2 a s → cacheGet x.2.cache a s = cacheGet y.2.cache a s

theorem sr_runStatement_frame (vars : Vars) (c1 c2 : Cache) (tx : TxMeta) (am : AccMeta)
    (st : Statement) (p p' : BalanceQuery)
    (hf : findBalancesQueriesInStatement vars st p = .ok p') (hag : sr_AgreeQ p' c1 c2)
    (hw : ∀ s, cacheGet c1 WORLD s = cacheGet c2 WORLD s) :
    sr_ORel (sr_StRel c1 c2) (runStatement vars ⟨c1, tx, am⟩ st) (runStatement vars ⟨c2, tx, am⟩ st) := by
  cases st with
  | nil => exact rfl
  | fnCallNil => exact rfl
  | fnCall fn =>
    simp only [runStatement]
    cases evalExprs vars fn.args with
    | panic _ => exact rfl
    | err _ => exact rfl
    | ok args =>
    refine sr_ORel_ite (fun _ => ?_) fun _ => sr_ORel_ite (fun _ => ?_) fun _ => rfl
    · cases parseArgs2 args expectString (fun v => Outcome.ok v) with
      | panic _ => exact rfl
      | err _ => exact rfl
      | ok _ => exact ⟨rfl, rfl, rfl, fun _ _ h => h⟩
    · cases parseArgs3 args expectAccount expectString (fun v => Outcome.ok v) with
      | panic _ => exact rfl
      | err _ => exact rfl
      | ok _ => exact ⟨rfl, rfl, rfl, fun _ _ h => h⟩
  | save _ sv amount =>
    simp only [findBalancesQueriesInStatement] at hf
    split at hf
    · cases hf
    · cases hf
    rename_i asset amt hsv
    split at hf
    · cases hf
    · cases hf
    rename_i account hacc
    cases hf
    have hkey : cacheGet c1 account asset = cacheGet c2 account asset := by
      by_cases hwa : account = WORLD
      · rw [hwa]
        exact hw asset
      · exact hag account asset hwa (sr_pairs_batchQuery_self p asset hwa)
    have hpw : ∀ v a s, cacheGet c1 a s = cacheGet c2 a s →
        cacheGet (cacheSet c1 account asset v) a s = cacheGet (cacheSet c2 account asset v) a s :=
      fun v a s h => by rw [lg_cacheGet_cacheSet, lg_cacheGet_cacheSet, h]
    simp only [runStatement, runSaveStatement, hsv, hacc, hkey]
    cases amt with
    | none => exact ⟨rfl, rfl, rfl, hpw _⟩
    | some n => exact sr_ORel_ite (fun _ => rfl) fun _ => ⟨rfl, rfl, rfl, hpw _⟩
  | send _ sv src dst =>
    simp only [findBalancesQueriesInStatement] at hf
    split at hf
    · cases hf
    · cases hf
    rename_i asset _ hsv
    have hrcv := sr_receiveFrom_frame vars asset c1 c2 dst
    cases sv with
    | nil => exact rfl
    | all _ a =>
      rw [evaluateSentAmt] at hsv
      split at hsv
      · cases hsv
      · cases hsv
      rename_i hev
      cases hsv
      simp only [runStatement, runSendStatement, hev, hrcv, sr_sendAll_frame vars asset c1 c2 src p p' [] hf hag]
      cases sendAll ⟨vars, c2, asset⟩ src [] with
      | panic _ => exact rfl
      | err _ => exact rfl
      | ok r =>
      dsimp only
      cases receiveFrom ⟨vars, c2, asset⟩ dst r.1 [] with
      | panic _ => exact rfl
      | err _ => exact rfl
      | ok _ => exact ⟨rfl, rfl, rfl, sr_applyPostings_pw _ c1 c2⟩
    | lit _ m =>
      rw [evaluateSentAmt] at hsv
      split at hsv
      · cases hsv
      · cases hsv
      rename_i amt hev
      cases hsv
      simp only [runStatement, runSendStatement, trySendingExact, hev, hrcv,
        sr_trySendingUpTo_frame vars asset c1 c2 src p p' amt [] hf hag]
      refine sr_ORel_ite (fun _ => rfl) fun _ => ?_
      cases trySendingUpTo ⟨vars, c2, asset⟩ src amt [] with
      | panic _ => exact rfl
      | err _ => exact rfl
      | ok r =>
      dsimp only
      split
      · exact rfl
      · exact rfl
      cases receiveFrom ⟨vars, c2, asset⟩ dst amt [] with
      | panic _ => exact rfl
      | err _ => exact rfl
      | ok _ => exact ⟨rfl, rfl, rfl, sr_applyPostings_pw _ c1 c2⟩

theorem sr_runStatements_frame (vars : Vars) (r : BalanceQuery) : ∀ (stmts : List Statement)
    (p : BalanceQuery) (c1 c2 : Cache) (tx : TxMeta) (am : AccMeta),
    preload vars stmts p = .ok r → sr_AgreeQ r c1 c2 →
    (∀ s, cacheGet c1 WORLD s = cacheGet c2 WORLD s) →
    sr_ORel (fun x y => x.1 = y.1 ∧ x.2.txMeta = y.2.txMeta ∧ x.2.accMeta = y.2.accMeta)
      (runStatements vars stmts ⟨c1, tx, am⟩) (runStatements vars stmts ⟨c2, tx, am⟩)
  | [], _, _, _, _, _, _, _, _ => by
      simp only [runStatements]
      exact ⟨rfl, rfl, rfl⟩
  | st :: ss, p, c1, c2, tx, am, hpre, hag, hw => by
      rw [preload] at hpre
      split at hpre
      · cases hpre
      · cases hpre
      rename_i p1 hx
      simp only [runStatements]
      with_reducible refine (sr_runStatement_frame vars c1 c2 tx am st p p1 hx
        (sr_agreeQ_sub (sr_preload_sub vars ss p1 r hpre) hag) hw).elim ?_ ?_ ?_
      · exact fun _ => rfl
      · exact fun _ => rfl
      rintro ⟨ps, c1', tx', am'⟩ ⟨_, c2', _, _⟩ ⟨rfl, rfl, rfl, hpw⟩
      dsimp only at hpw ⊢
      have hag' : sr_AgreeQ r c1' c2' := fun a s ha hp => hpw a s (hag a s ha hp)
      with_reducible refine (sr_runStatements_frame vars r ss p1 c1' c2' tx' am' hpre hag'
        fun s => hpw WORLD s (hw s)).elim ?_ ?_ ?_
      · exact fun _ => rfl
      · exact fun _ => rfl
      rintro ⟨_, _⟩ ⟨_, _⟩ ⟨rfl, htx, ham⟩
      exact ⟨rfl, htx, ham⟩

/-! ## @world is never requested (any store) -/

def sr_NW (q : QState) : Prop :=
  sr_NoWorld q.pending ∧ ∀ call ∈ q.log, WORLD ∉ callAccounts call

theorem sr_nw_log {q : QState} (hq : sr_NW q) {cache : Cache} {pending : BalanceQuery} {calls : Nat}
    {call : StoreCall} (hp : sr_NoWorld pending) (hc : WORLD ∉ callAccounts call) :
    sr_NW ⟨cache, pending, calls, q.log ++ [call]⟩ := by
  refine ⟨hp, fun c hmem => ?_⟩
  rcases List.mem_append.mp hmem with hmem | hmem
  · exact hq.2 c hmem
  · rw [List.mem_singleton.mp hmem]
    exact hc

theorem sr_runBalancesQuery_nw (store : Store) (q q' : QState)
    (h : runBalancesQuery store q = .ok q') (hq : sr_NW q) : sr_NW q' := by
  unfold runBalancesQuery at h
  dsimp only at h
  split at h
  · cases h
    exact hq
  split at h
  · cases h
  cases h
  refine sr_nw_log hq nofun fun hw => ?_
  obtain ⟨e, he, hew⟩ := List.mem_map.mp hw
  exact hq.1 e (List.mem_filter.mp he).1 hew

theorem sr_getBalance_nw (store : Store) (q : QState) (a s : String) (hq : sr_NW q) :
    sr_OkAll (fun x => sr_NW x.2) (getBalance store q a s) := by
  unfold getBalance
  dsimp only
  cases hr : runBalancesQuery store { q with pending := batchQuery q.pending a s } with
  | error _ => exact rfl
  | ok q2 => exact sr_runBalancesQuery_nw store _ q2 hr ⟨sr_batchQuery_noWorld _ _ _ hq.1, hq.2⟩

theorem sr_handleOrigin_nw (store : Store) (flag : Bool) (vars : Vars) (q : QState) (ty : String)
    (fn : FnCall) (hq : sr_NW q) : sr_OkAll (fun x => sr_NW x.2) (handleOrigin store flag vars q ty fn) := by
  unfold handleOrigin
  cases evalExprs vars fn.args with
  | panic _ => exact rfl
  | err _ => exact rfl
  | ok args =>
  refine sr_ORel_ite (fun _ => ?_) fun _ => sr_ORel_ite (fun _ => ?_) fun _ =>
    sr_ORel_ite (fun _ => sr_ORel_ite (fun _ => rfl) fun _ => ?_) fun _ => rfl
  · cases parseArgs2 args expectAccount expectString with
    | panic _ => exact rfl
    | err _ => exact rfl
    | ok r =>
    obtain ⟨account, key⟩ := r
    dsimp only
    cases store.getMeta q.calls account key with
    | error _ => exact rfl
    | ok answer =>
    dsimp only
    cases lookupMeta answer account key with
    | none => exact rfl
    | some raw =>
    dsimp only
    cases parseVar ty raw with
    | panic _ => exact rfl
    | err _ => exact rfl
    | ok v => exact sr_nw_log hq hq.1 List.not_mem_nil
  · cases parseArgs2 args expectAccount expectAsset with
    | panic _ => exact rfl
    | err _ => exact rfl
    | ok r =>
    obtain ⟨account, asset⟩ := r
    dsimp only
    exact (sr_getBalance_nw store q account asset hq).elim (fun _ => rfl) (fun _ => rfl)
      fun _ h => sr_ORel_ite (fun _ => rfl) fun _ => h
  · cases parseArgs2 args expectAccount expectAsset with
    | panic _ => exact rfl
    | err _ => exact rfl
    | ok r =>
    obtain ⟨account, asset⟩ := r
    dsimp only
    exact (sr_getBalance_nw store q account asset hq).elim (fun _ => rfl) (fun _ => rfl)
      fun _ h => sr_ORel_ite (fun _ => h) fun _ => h

theorem sr_parseVars_nw (store : Store) (flag : Bool) (rawVars : List (String × String))
    (decls : List VarDecl) (vars : Vars) (q : QState) (hq : sr_NW q) :
    sr_OkAll (fun x => sr_NW x.2) (parseVars store flag rawVars decls vars q) := by
  refine sr_ORel_mono (fun _ _ h => h.2.2) (sr_parseVars_sim flag rawVars
    (fun q1 q2 => q1 = q2 ∧ sr_NW q1) ?_ decls vars q q ⟨rfl, hq⟩)
  rintro vars q1 _ ty fn ⟨rfl, hn⟩
  exact sr_ORel_refl_ok fun a ha => ⟨rfl, rfl, (sr_handleOrigin_nw store flag vars q1 ty fn hn).of_ok ha⟩

/-! ## The feature flag -/

theorem sr_handleOrigin_flag (store : Store) (vars : Vars) (q : QState) (ty : String) (fn : FnCall)
    (h : fn.name ≠ "overdraft") :
    handleOrigin store true vars q ty fn = handleOrigin store false vars q ty fn := by
  unfold handleOrigin
  simp only [h, if_false]

theorem sr_parseVars_flag (store : Store) (rawVars : List (String × String)) :
    ∀ (decls : List VarDecl) (vars : Vars) (q : QState),
    decls.any (fun d => match d.origin with | some fn => fn.name == "overdraft" | none => false) = false →
    parseVars store true rawVars decls vars q = parseVars store false rawVars decls vars q
  | [], vars, q, _ => by
      simp only [parseVars]
  | d :: rest, vars, q, h => by
      rw [List.any_cons, Bool.or_eq_false_iff] at h
      have ih := sr_parseVars_flag store rawVars rest
      rw [parseVars, parseVars]
      split
      · rfl
      · rfl
      split
      · simp only [fun vars => ih vars q h.2]
      · rename_i fn ho
        rw [ho] at h
        simp only [sr_handleOrigin_flag store vars q _ fn (by simpa using h.1), fun vars q => ih vars q h.2]

end NS
