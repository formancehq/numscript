/-
  The parser reads back the written form of a writable tree: on the stream `up_tok` makes of
  `Program.toks` every parser function, given enough fuel, consumes exactly what a node is written as
  and returns that node up to ranges.  Where a parser stops depends on the token behind the written
  form (`up_Next`): an expression ends in front of anything but `+` and `-`, an address in front of
  anything but these and `allowing`.
-/
import Proofs.TextLemmas
import Proofs.ParseLemmas

namespace NS

/-- `numbersInRange` on kinds and texts -/
def up_nr (l : List Shape) : Bool :=
  l.all (fun s => s.1 != .number || (numberTokenValue s.2).isSome)

theorem up_nr_nil : up_nr [] = true := rfl

theorem up_nr_append (a b : List Shape) : up_nr (a ++ b) = (up_nr a && up_nr b) := by
  simp [up_nr, List.all_append]

theorem up_nr_cons (s : Shape) (b : List Shape) :
    up_nr (s :: b) = ((s.1 != .number || (numberTokenValue s.2).isSome) && up_nr b) := by
  simp [up_nr]

theorem up_nr_kw (k : TK) (s : String) (b : List Shape) (hk : k ≠ .number) :
    up_nr (kw k s :: b) = up_nr b := by
  simp [up_nr, kw, hk]

theorem up_numbersInRange (ts : List Tok) : numbersInRange ts = up_nr (ts.map Tok.shape) := by
  simp [numbersInRange, up_nr, List.all_map, Tok.shape, Function.comp_def]

/-! ### literals -/

theorem up_ntv_digits (ds : List Char) (h : ds.all isDigit = true) :
    numberTokenValue ds =
      if - (2 ^ 63 : Int) ≤ (digitsVal ds : Int) ∧ (digitsVal ds : Int) < (2 ^ 63 : Int)
      then some (digitsVal ds : Int) else none := by
  unfold numberTokenValue
  cases ds with
  | nil => rfl
  | cons c t =>
    by_cases hc : c = '-'
    · subst hc
      simp only [List.all_cons, Bool.and_eq_true] at h
      exact absurd h.1 (by decide)
    · simp only []
      split
      · rename_i heq
        simp at heq
        exact absurd heq.1 hc
      · rfl

theorem up_ntv_neg (ds : List Char) :
    numberTokenValue ('-' :: ds) =
      if - (2 ^ 63 : Int) ≤ - (digitsVal ds : Int) ∧ - (digitsVal ds : Int) < (2 ^ 63 : Int)
      then some (- (digitsVal ds : Int)) else none := by
  unfold numberTokenValue
  rfl

theorem up_numberTokenValue (n : Int) (h : - (2 ^ 63 : Int) ≤ n ∧ n < (2 ^ 63 : Int)) :
    numberTokenValue (intText n) = some n := by
  unfold intText natText
  by_cases hn : n < 0
  · rw [if_pos hn, up_ntv_neg, tx_digitsVal_toDigits, show - ((n.natAbs : Nat) : Int) = n by omega, if_pos h]
  · rw [if_neg hn, up_ntv_digits _ (tx_all_isDigit_toDigits _), tx_digitsVal_toDigits,
      show ((n.toNat : Nat) : Int) = n by omega, if_pos h]

theorem up_ratioLiteral (n d : Nat) :
    ratioLiteral (natText n ++ '/' :: natText d) = some (n, d) := by
  have := tx_ratioLiteral (natText n) (natText d) Nat.toDigits_ne_nil (tx_all_isDigit_toDigits n)
    Nat.toDigits_ne_nil (tx_all_isDigit_toDigits d) false false
  simpa [natText, tx_digitsVal_toDigits] using this

/-! ### tokens without positions

Each shape is made a token at the origin: any other stream with these kinds and texts gives the
same tree up to ranges (`parse_layout_independent`). -/

def up_tok (s : Shape) : Tok := ⟨s.1, s.2, 0, 0⟩

theorem up_tok_shape (l : List Shape) : (l.map up_tok).map Tok.shape = l := by
  induction l with
  | nil => rfl
  | cons s l ih => rw [List.map_cons, List.map_cons, ih]; rfl

theorem up_tok_sim {ts : List Tok} {l : List Shape} (h : ts.map Tok.shape = l) :
    pt_Sim ts (l.map up_tok) := by
  rw [pt_Sim, h, up_tok_shape]

theorem up_tok_kind (s : Shape) : (up_tok s).kind = s.1 := rfl

theorem up_kw_kind (k : TK) (s : String) : (up_tok (kw k s)).kind = k := rfl

def up_Next (P : TK → Prop) (ts : List Tok) : Prop := ∀ t, ts.head? = some t → P t.kind

theorem up_Next.cons {P : TK → Prop} {t : Tok} {r : List Tok} (h : P t.kind) : up_Next P (t :: r) :=
  fun _ hx => by cases hx; exact h

theorem up_Next.mono {P Q : TK → Prop} {ts : List Tok} (h : up_Next P ts) (hpq : ∀ k, P k → Q k) :
    up_Next Q ts := fun t ht => hpq _ (h t ht)

def up_Starts (P : TK → Prop) (l : List Shape) : Prop := ∃ s tl, l = s :: tl ∧ P s.1

theorem up_Starts.next {P : TK → Prop} {l : List Shape} (h : up_Starts P l) (X : List Tok) :
    up_Next P (l.map up_tok ++ X) := by
  obtain ⟨s, tl, rfl, hs⟩ := h
  exact .cons hs

theorem up_Starts.append {P : TK → Prop} {l : List Shape} (h : up_Starts P l) (m : List Shape) :
    up_Starts P (l ++ m) := by
  obtain ⟨s, tl, rfl, hs⟩ := h
  exact ⟨s, tl ++ m, rfl, hs⟩

theorem up_Starts.mono {P Q : TK → Prop} {l : List Shape} (h : up_Starts P l) (hpq : ∀ k, P k → Q k) :
    up_Starts Q l := by
  obtain ⟨s, tl, rfl, hs⟩ := h
  exact ⟨s, tl, rfl, hpq _ hs⟩

theorem up_Starts.length {P : TK → Prop} {l : List Shape} (h : up_Starts P l) : 1 ≤ l.length := by
  obtain ⟨s, tl, rfl, _⟩ := h
  simp

theorem up_expect_hit (k : TK) (s : String) (r : List Tok) :
    expect k (up_tok (kw k s) :: r) = some (up_tok (kw k s), r) := by
  rw [pt_expect_eq, up_kw_kind, if_pos rfl]

theorem up_expect_miss {k : TK} {r : List Tok} (h : up_Next (· ≠ k) r) : expect k r = none := by
  cases r with
  | nil => rfl
  | cons t r => rw [pt_expect_eq, if_neg (h t rfl)]

/-! ### expressions -/

def up_exprHead (k : TK) : Bool :=
  k = .varName || k = .asset || k = .account || k = .string || k = .number || k = .ratio ||
  k = .lbracket

theorem up_ne_of {p : TK → Bool} {k k' : TK} (h : p k = true) (h' : p k' = false) : k ≠ k' :=
  fun e => by rw [e, h'] at h; cases h

theorem up_expr_head : ∀ e : Expr, e.Printable → up_Starts (up_exprHead · = true) e.toks := by
  intro e
  induction e with
  | nil | monetaryNil => exact False.elim
  | monetary r a b _ _ => intro _; exact ⟨_, _, rfl, rfl⟩
  | «infix» r op l r' ihl _ =>
    intro h
    simp only [Expr.toks, List.append_assoc]
    exact (ihl h.1).append _
  | _ => intro _; exact ⟨_, _, rfl, rfl⟩

abbrev up_stopE : List Tok → Prop := up_Next fun k => k ≠ .plus ∧ k ≠ .minus

/-- so `pSource` and `pDest` read a written expression as an account -/
theorem up_expr_account (e : Expr) (he : e.Printable) :
    up_Starts (fun k => k ≠ .lbrace ∧ k ≠ .kwMax) e.toks :=
  (up_expr_head e he).mono fun _ hk => ⟨up_ne_of hk rfl, up_ne_of hk rfl⟩

theorem up_expr_stopE {e : Expr} (he : e.Printable) (X : List Tok) :
    up_stopE (e.toks.map up_tok ++ X) :=
  ((up_expr_head e he).next X).mono fun _ hk => ⟨up_ne_of hk rfl, up_ne_of hk rfl⟩

/-- Fuel: along a chain of calls a token accounts for two at most, `pExpr` then `pPrimary` at a
    bracket, `pInfixTail` then `pPrimary` at an operator. -/
def up_PrimOk (e : Expr) : Prop :=
  ∀ (rest : List Tok) (f : Nat), 2 * e.toks.length ≤ f →
    ∃ e' stop, pPrimary f (e.toks.map up_tok ++ rest) = some (e', stop, rest) ∧ e'.skel = e.skel

/-- reading `e` in front of `rest`, `pExpr` arrives at the loop over `+`/`-` with `e` built as its
    left operand, `rest` still to read and fuel `g` left, one unit per token of `e` spent at most.
    It is this that goes through the induction on `e`, since an operator follows a left operand. -/
def up_SpineOk (e : Expr) : Prop :=
  ∀ (rest : List Tok) (f : Nat), 2 * e.toks.length ≤ f →
    ∃ g first e' stop, f ≤ g + e.toks.length ∧ e'.skel = e.skel ∧
      pExpr (f + 1) (e.toks.map up_tok ++ rest) = pInfixTail g first e' stop rest

/-- `+ 2`: the first call of `pExpr` and the last of `pInfixTail` consume no token. -/
def up_ExprOk (e : Expr) : Prop :=
  ∀ (rest : List Tok) (f : Nat), up_stopE rest → 2 * e.toks.length + 2 ≤ f →
    ∃ e' stop, pExpr f (e.toks.map up_tok ++ rest) = some (e', stop, rest) ∧ e'.skel = e.skel

theorem up_spine_expr {e : Expr} (h : up_SpineOk e) : up_ExprOk e := by
  intro rest f hrest hf
  obtain ⟨f0, rfl⟩ := Nat.exists_eq_add_one_of_ne_zero (n := f) (by omega)
  obtain ⟨g, first, e', stop, hg, hsk, hp⟩ := h rest f0 (by omega)
  obtain ⟨g', rfl⟩ := Nat.exists_eq_add_one_of_ne_zero (n := g) (by omega)
  refine ⟨e', stop, ?_, hsk⟩
  rw [hp]
  cases rest with
  | nil => exact pt_infixTail_nil _ _ _ _
  | cons op r => rw [pt_infixTail_eq, if_neg (not_or.2 (hrest op rfl))]

theorem up_prim_spine {e : Expr} (h : up_PrimOk e) : up_SpineOk e := by
  intro rest f hf
  obtain ⟨e', stop, hp, hsk⟩ := h rest f hf
  cases hts : e.toks.map up_tok ++ rest with
  | nil => rw [hts] at hp; cases f <;> cases hp
  | cons first tl =>
    rw [hts] at hp
    exact ⟨f, first, e', stop, by omega, hsk, by rw [pt_expr_eq, hp]; rfl⟩

theorem up_literal {e : Expr} {s : Shape} (hs : e.toks = [s])
    (h : ∀ f rest, ∃ e', pPrimary (f + 1) (up_tok s :: rest) = some (e', up_tok s, rest) ∧
      e'.skel = e.skel) : (e.isInfix = false → up_PrimOk e) ∧ up_SpineOk e := by
  have hp : up_PrimOk e := by
    intro rest f hf
    rw [hs] at hf ⊢
    obtain ⟨f', rfl⟩ := Nat.exists_eq_add_one_of_ne_zero (n := f) (by simp at hf; omega)
    obtain ⟨e', he', hsk⟩ := h f' rest
    exact ⟨e', _, he', hsk⟩
  exact ⟨fun _ => hp, up_prim_spine hp⟩

theorem up_expr_ok : ∀ e : Expr, e.Printable →
    (e.isInfix = false → up_PrimOk e) ∧ up_SpineOk e := by
  intro e
  induction e with
  | nil | monetaryNil => exact False.elim
  | var r n | asset r n | account r n | str r n =>
    exact fun _ => up_literal rfl fun f rest =>
      ⟨_, by rw [pt_primary_eq]; rfl, by simp [Expr.skel, up_tok, tokString]⟩
  | number r n =>
    exact fun hn => up_literal rfl fun f rest => ⟨_, by
      rw [pt_primary_eq]
      show (numberTokenValue (intText n)).bind _ = _
      rw [up_numberTokenValue n hn]; rfl, by rfl⟩
  | ratio r n d =>
    exact fun _ => up_literal rfl fun f rest => ⟨_, by
      rw [pt_primary_eq]
      show (portionExpr _).bind _ = _
      simp only [portionExpr, up_tok, ↓reduceIte, up_ratioLiteral]; rfl, by rfl⟩
  | monetary r a b iha ihb =>
    intro h
    have hp : up_PrimOk (.monetary r a b) := by
      intro rest f hf
      simp only [Expr.toks, List.length_cons, List.length_append, List.length_nil] at hf
      obtain ⟨f', rfl⟩ := Nat.exists_eq_add_one_of_ne_zero (n := f) (by omega)
      obtain ⟨a', sa, hpa, hska⟩ := up_spine_expr (iha h.1).2
        (b.toks.map up_tok ++ up_tok (kw .rbracket "]") :: rest) f' (up_expr_stopE h.2 _) (by omega)
      obtain ⟨b', sb, hpb, hskb⟩ := up_spine_expr (ihb h.2).2 (up_tok (kw .rbracket "]") :: rest) f'
        (.cons (by decide)) (by omega)
      simp only [Expr.toks, List.map_cons, List.map_append, List.map_nil, List.cons_append,
        List.append_assoc, List.nil_append, pt_primary_eq, up_kw_kind, hpa, hpb, up_expect_hit,
        Option.bind_some]
      exact ⟨_, _, rfl, by simp only [Expr.skel, hska, hskb]⟩
    exact ⟨fun _ => hp, up_prim_spine hp⟩
  | «infix» r op l r' ihl ihr =>
    intro h
    refine ⟨fun hi => by simp [Expr.isInfix] at hi, ?_⟩
    intro rest f hf
    have hr1 := (up_expr_head r' h.2.1).length
    simp only [Expr.toks, List.length_append, List.length_cons, List.map_append, List.map_cons,
      List.append_assoc, List.cons_append, List.nil_append] at hf ⊢
    have key : ∀ (k : TK) (s : String), (k = .plus ∨ k = .minus) →
        (if k = .plus then InfixOp.plus else .minus) = op →
        ∃ g first e' stop, f ≤ g + (l.toks.length + (r'.toks.length + 1)) ∧
          e'.skel = (Expr.infix r op l r').skel ∧
          pExpr (f + 1) (l.toks.map up_tok ++ up_tok (kw k s) :: (r'.toks.map up_tok ++ rest)) =
            pInfixTail g first e' stop rest := by
      intro k s hk hop
      obtain ⟨g, first, l', sl, hg, hskl, hpl⟩ := (ihl h.1).2
        (up_tok (kw k s) :: (r'.toks.map up_tok ++ rest)) f (by omega)
      obtain ⟨g', rfl⟩ := Nat.exists_eq_add_one_of_ne_zero (n := g) (by omega)
      obtain ⟨r'', sr, hpr, hskr⟩ := (ihr h.2.1).1 h.2.2 rest g' (by omega)
      refine ⟨g', first, .infix (rangeOf first sr) op l' r'', sr, by omega,
        by simp only [Expr.skel, hskl, hskr], ?_⟩
      rw [hpl, pt_infixTail_eq, up_kw_kind, if_pos hk, hpr, hop]; rfl
    cases op
    · exact key .plus "+" (.inl rfl) rfl
    · exact key .minus "-" (.inr rfl) rfl

theorem up_expr {e : Expr} (he : e.Printable) : up_ExprOk e :=
  up_spine_expr (up_expr_ok e he).2

/-! ### numbers in range, on the tree -/

section
attribute [local simp] up_nr_append up_nr_cons up_nr_nil kw

theorem up_expr_nr : ∀ e : Expr, e.Printable → up_nr e.toks = true := by
  intro e
  induction e with
  | nil | monetaryNil => exact False.elim
  | number r n => intro h; simp [Expr.toks, up_numberTokenValue n h]
  | monetary r a b iha ihb => intro h; simp [Expr.toks, iha h.1, ihb h.2]
  | «infix» r op l r' ihl ihr => intro h; cases op <;> simp [Expr.toks, ihl h.1, ihr h.2.1]
  | _ => intro _; simp [Expr.toks]

theorem up_allot_nr : ∀ a : AllotVal, a.Printable → up_nr a.toks = true
  | .remaining _, _ | .portion (.var _ _), _ | .portion (.ratio _ _ _), _ => by
      simp [AllotVal.toks, Expr.toks]

mutual
theorem up_source_nr : ∀ s : Source, s.Printable → up_nr s.toks = true
  | .nil, h => h.elim
  | .account e, h => up_expr_nr e h
  | .overdraft _ addr none, h => by simp [Source.toks, up_expr_nr addr h]
  | .overdraft _ addr (some b), h => by simp [Source.toks, up_expr_nr addr h.1, up_expr_nr b h.2]
  | .inorder _ srcs, h => by simp [Source.toks, up_sources_nr srcs h]
  | .capped _ cap src, h => by simp [Source.toks, up_expr_nr cap h.1, up_source_nr src h.2]
  | .allotment _ items, h => by simp [Source.toks, up_srcItems_nr items h.2]
theorem up_sources_nr : ∀ ss : List Source, SourcesPrintable ss → up_nr (sourcesToks ss) = true
  | [], _ => rfl
  | s :: ss, h => by simp [sourcesToks, up_source_nr s h.1, up_sources_nr ss h.2]
theorem up_srcItems_nr : ∀ is : List SrcItem, SrcItemsPrintable is → up_nr (srcItemsToks is) = true
  | [], _ => rfl
  | (.mk _ a src) :: rest, h => by
      simp [srcItemsToks, up_allot_nr a h.1, up_source_nr src h.2.1, up_srcItems_nr rest h.2.2]
end

mutual
theorem up_dest_nr : ∀ d : Dest, d.Printable → up_nr d.toks = true
  | .nil, h => h.elim
  | .account e, h => up_expr_nr e h
  | .inorder _ cs k, h => by simp [Dest.toks, up_clauses_nr cs h.2.1, up_kod_nr k h.2.2]
  | .allotment _ items, h => by simp [Dest.toks, up_dstItems_nr items h.2]
theorem up_kod_nr : ∀ k : KoD, k.Printable → up_nr k.toks = true
  | .nil, h => h.elim
  | .kept _, _ => by simp [KoD.toks]
  | .to d, h => by simp [KoD.toks, up_dest_nr d h]
theorem up_clauses_nr : ∀ cs : List DestClause, ClausesPrintable cs → up_nr (clausesToks cs) = true
  | [], _ => rfl
  | (.mk _ cap k) :: rest, h => by
      simp [clausesToks, up_expr_nr cap h.1, up_kod_nr k h.2.1, up_clauses_nr rest h.2.2]
theorem up_dstItems_nr : ∀ is : List DestItem, DstItemsPrintable is → up_nr (dstItemsToks is) = true
  | [], _ => rfl
  | (.mk _ a k) :: rest, h => by
      simp [dstItemsToks, up_allot_nr a h.1, up_kod_nr k h.2.1, up_dstItems_nr rest h.2.2]
end

theorem up_exprs_nr : ∀ es : List Expr, ExprsPrintable es → up_nr (exprsToks es) = true
  | [], _ => rfl
  | [e], h => up_expr_nr e h.1
  | e :: e2 :: es, h => by
      simpa [exprsToks, up_expr_nr e h.1] using up_exprs_nr (e2 :: es) h.2

theorem up_fnCall_nr (c : FnCall) (h : c.Printable) : up_nr c.toks = true := by
  have : (fnNameTok c.name).1 ≠ .number := by unfold fnNameTok; split <;> simp
  simp [FnCall.toks, this, up_exprs_nr c.args h]

theorem up_sentValue_nr : ∀ sv : SentValue, sv.Printable → up_nr sv.toks = true
  | .nil, h => h.elim
  | .lit _ m, h => up_expr_nr m h
  | .all _ a, h => by simp [SentValue.toks, up_expr_nr a h]

theorem up_statement_nr : ∀ s : Statement, s.Printable → up_nr s.toks = true
  | .nil, h | .fnCallNil, h => h.elim
  | .send _ sv src dst, h => by
      simp [Statement.toks, up_sentValue_nr sv h.1, up_source_nr src h.2.1, up_dest_nr dst h.2.2]
  | .save _ sv e, h => by simp [Statement.toks, up_sentValue_nr sv h.1, up_expr_nr e h.2]
  | .fnCall c, h => up_fnCall_nr c h

theorem up_varDecl_shape (d : VarDecl) (hp : d.Printable) :
    ∃ r nr n tr t o, d = ⟨r, some (nr, n), some (tr, t), o⟩ ∧ ∀ c, o = some c → c.Printable := by
  obtain ⟨r, name, type, origin⟩ := d
  obtain ⟨h1, h2, h3⟩ := hp
  match name, type, h1, h2 with
  | some (nr, n), some (tr, t), _, _ => exact ⟨r, nr, n, tr, t, origin, rfl, h3⟩

theorem up_varDecl_nr (d : VarDecl) (h : d.Printable) : up_nr d.toks = true := by
  obtain ⟨r, nr, n, tr, t, o, rfl, h3⟩ := up_varDecl_shape d h
  cases o with
  | none => simp [VarDecl.toks]
  | some c => simp [VarDecl.toks, up_fnCall_nr c (h3 c rfl)]

theorem up_flatMap_nr {α : Type} (tk : α → List Shape) : ∀ l : List α,
    (∀ x ∈ l, up_nr (tk x) = true) → up_nr (l.flatMap tk) = true
  | [], _ => rfl
  | x :: l, h => by
      simp [(List.forall_mem_cons.1 h).1, up_flatMap_nr tk l (List.forall_mem_cons.1 h).2]

theorem up_program_nr (p : Program) (h : p.Printable) : up_nr p.toks = true := by
  have h1 := up_flatMap_nr VarDecl.toks p.vars fun d hd => up_varDecl_nr d (h.1 d hd)
  have h2 := up_flatMap_nr Statement.toks p.stmts fun s hs => up_statement_nr s (h.2 s hs)
  unfold Program.toks
  split <;> simp [h1, h2]

end

/-! ### function calls -/

theorem up_argsTail : ∀ (es : List Expr), ExprsPrintable es → ∀ (rest : List Tok) (f : Nat),
    up_Next (fun k => k ≠ .comma ∧ k ≠ .plus ∧ k ≠ .minus) rest →
    2 * (pt_argsTailToks es).length + 2 ≤ f →
    ∃ es', pArgsTail f ((pt_argsTailToks es).map up_tok ++ rest) = some (es', rest) ∧
      es'.map Expr.skel = es.map Expr.skel
  | [], _, rest, f, hrest, hf => by
      obtain ⟨f', rfl⟩ := Nat.exists_eq_add_one_of_ne_zero (n := f) (by omega)
      simp only [pt_argsTailToks, List.map_nil, List.nil_append, pt_argsTail_eq,
        up_expect_miss (hrest.mono fun _ h => h.1)]
      exact ⟨[], rfl, rfl⟩
  | e :: es, h, rest, f, hrest, hf => by
      simp only [pt_argsTailToks, List.length_cons, List.length_append] at hf
      obtain ⟨f', rfl⟩ := Nat.exists_eq_add_one_of_ne_zero (n := f) (by omega)
      have hstop : up_stopE ((pt_argsTailToks es).map up_tok ++ rest) := by
        cases es with
        | nil => exact hrest.mono fun _ h => h.2
        | cons e2 es2 => exact .cons (by decide)
      obtain ⟨e', se, hpe, hske⟩ := up_expr h.1 _ f' hstop (by omega)
      obtain ⟨es', hpa, hsks⟩ := up_argsTail es h.2 rest f' hrest (by omega)
      simp only [pt_argsTailToks, List.map_cons, List.map_append, List.cons_append,
        List.append_assoc, pt_argsTail_eq, up_expect_hit, hpe, hpa, Option.bind_some]
      exact ⟨_, rfl, by simp only [List.map_cons, hske, hsks]⟩

theorem up_fnNameTok (n : String) :
    ((up_tok (fnNameTok n)).kind = .ident ∨ (up_tok (fnNameTok n)).kind = .kwOverdraft) ∧
      (up_tok (fnNameTok n)).text = n.toList := by
  unfold fnNameTok; split <;> simp [up_tok]

theorem up_fnCall (c : FnCall) (hc : c.Printable) (rest : List Tok) (f : Nat)
    (hf : 2 * c.toks.length + 2 ≤ f) :
    ∃ c' stop, pFnCall f (c.toks.map up_tok ++ rest) = some (c', stop, rest) ∧ c'.skel = c.skel := by
  obtain ⟨cr, ccr, name, args⟩ := c
  obtain ⟨hnk, hnt⟩ := up_fnNameTok name
  cases args with
  | nil =>
    simp only [FnCall.toks, exprsToks, List.map_cons, List.map_nil, List.cons_append,
      List.nil_append, pt_fnCall_eq, hnk, up_kw_kind, and_self, ↓reduceIte, up_expect_hit]
    exact ⟨_, _, rfl, by simp [FnCall.skel, tokString, hnt]⟩
  | cons e es =>
    have hp : e.Printable ∧ ExprsPrintable es := hc
    simp only [FnCall.toks, pt_exprsToks_cons, List.length_cons, List.length_append,
      List.length_nil] at hf
    have hmiss : expect .rparen (e.toks.map up_tok ++ ((pt_argsTailToks es).map up_tok ++
        up_tok (kw .rparen ")") :: rest)) = none :=
      up_expect_miss (((up_expr_head e hp.1).next _).mono fun _ hk => up_ne_of hk rfl)
    have hstop : up_stopE ((pt_argsTailToks es).map up_tok ++ up_tok (kw .rparen ")") :: rest) := by
      cases es with
      | nil => exact .cons (by decide)
      | cons e2 es2 => exact .cons (by decide)
    obtain ⟨e', se, hpe, hske⟩ := up_expr hp.1 _ f hstop (by omega)
    obtain ⟨es', hpa, hsks⟩ := up_argsTail es hp.2 (up_tok (kw .rparen ")") :: rest) f
      (.cons (by decide)) (by omega)
    simp only [FnCall.toks, pt_exprsToks_cons, List.map_cons, List.map_append, List.map_nil,
      List.cons_append, List.append_assoc, List.nil_append, pt_fnCall_eq, hnk, up_kw_kind,
      and_self, ↓reduceIte, hmiss, hpe, hpa, up_expect_hit, Option.bind_some]
    exact ⟨_, _, rfl, by simp [FnCall.skel, tokString, hnt, hske, hsks]⟩

/-! ### allotment heads -/

theorem up_allot (a : AllotVal) (h : a.Printable) :
    ∃ s, a.toks = [s] ∧ isAllotHead s.1 = true ∧
      ∃ av, allotOfTok (up_tok s) = some av ∧ av.skel = a.skel := by
  match a, h with
  | .remaining r, _ => exact ⟨_, rfl, rfl, _, rfl, rfl⟩
  | .portion (.var r n), _ =>
    exact ⟨_, rfl, rfl, _, rfl, by simp [AllotVal.skel, Expr.skel, up_tok, tokString]⟩
  | .portion (.ratio r n d), _ =>
    exact ⟨_, rfl, rfl, _, by
      simp only [allotOfTok, portionExpr, up_tok, reduceCtorEq, ↓reduceIte, up_ratioLiteral,
        Option.map_some]; rfl, by rfl⟩

/-! ### sources -/

abbrev up_stopS : List Tok → Prop := up_Next fun k => k ≠ .plus ∧ k ≠ .minus ∧ k ≠ .kwAllowing

theorem up_source_head (s : Source) (h : s.Printable) : up_Starts (isSourceStart · = true) s.toks := by
  have he : ∀ e : Expr, e.Printable → up_Starts (isSourceStart · = true) e.toks := fun e he =>
    (up_expr_head e he).mono fun k hk => by revert hk; cases k <;> decide
  match s, h with
  | .account e, h => exact he e h
  | .overdraft _ addr none, h => exact (he addr h).append _
  | .overdraft _ addr (some b), h => simp only [Source.toks, List.append_assoc]; exact (he addr h.1).append _
  | .inorder _ _, _ | .capped _ _ _, _ | .allotment _ _, _ => exact ⟨_, _, rfl, rfl⟩

theorem up_sources_next {ss : List Source} (h : SourcesPrintable ss) (X : List Tok) :
    up_Next (fun k => isSourceStart k = true ∨ k = .rbrace)
      ((sourcesToks ss).map up_tok ++ up_tok (kw .rbrace "}") :: X) := by
  match ss, h with
  | [], _ => exact .cons (.inr rfl)
  | s :: ss, h =>
    simp only [sourcesToks, List.map_append, List.append_assoc]
    exact ((up_source_head s h.1).next _).mono fun _ => .inl

theorem up_srcItems_next {items : List SrcItem} (h : SrcItemsPrintable items) (X : List Tok) :
    up_Next (fun k => isAllotHead k = true ∨ k = .rbrace)
      ((srcItemsToks items).map up_tok ++ up_tok (kw .rbrace "}") :: X) := by
  match items, h with
  | [], _ => exact .cons (.inr rfl)
  | .mk _ a _ :: _, h =>
    obtain ⟨s, hs, hk, _⟩ := up_allot a h.1
    simp only [srcItemsToks, hs, List.map_cons, List.cons_append]
    exact .cons (.inl hk)

theorem up_ahead_head {t : Tok} (h : isAllotHead t.kind = false) (X : List Tok) :
    pt_allotAhead (t :: X) = false := by
  cases X <;> simp [pt_allotAhead, h]

theorem up_ahead_next (t : Tok) {X : List Tok} (h : up_Next (· ≠ .kwFrom) X) :
    pt_allotAhead (t :: X) = false := by
  cases X with
  | nil => rfl
  | cons u X => simp [pt_allotAhead, h u rfl]

theorem up_expr_ahead : ∀ e : Expr, e.Printable → ∀ X : List Tok, up_Next (· ≠ .kwFrom) X →
    pt_allotAhead (e.toks.map up_tok ++ X) = false := by
  intro e
  induction e with
  | nil | monetaryNil => exact False.elim
  | monetary r a b _ _ => intro _ X _; exact up_ahead_head rfl _
  | «infix» r op l r' ihl _ =>
    intro h X _
    simp only [Expr.toks, List.map_append, List.map_cons, List.append_assoc,
      List.cons_append, List.nil_append]
    exact ihl h.1 _ (.cons (by cases op <;> decide))
  | _ => intro _ X hX; exact up_ahead_next _ hX

theorem up_source_ahead (s : Source) (h : s.Printable) (X : List Tok) (hX : up_Next (· ≠ .kwFrom) X) :
    pt_allotAhead (s.toks.map up_tok ++ X) = false := by
  match s, h with
  | .account e, h => exact up_expr_ahead e h X hX
  | .overdraft _ addr none, h =>
    simp only [Source.toks, List.map_append, List.map_cons, List.append_assoc, List.cons_append]
    exact up_expr_ahead addr h _ (.cons (by decide))
  | .overdraft _ addr (some b), h =>
    simp only [Source.toks, List.map_append, List.map_cons, List.append_assoc, List.cons_append]
    exact up_expr_ahead addr h.1 _ (.cons (by decide))
  | .inorder _ _, _ | .capped _ _ _, _ | .allotment _ _, _ => exact up_ahead_head rfl _

theorem up_sources_ahead (ss : List Source) (h : SourcesPrintable ss) (X : List Tok) :
    pt_allotAhead ((sourcesToks ss).map up_tok ++ up_tok (kw .rbrace "}") :: X) = false := by
  match ss, h with
  | [], _ => exact up_ahead_head rfl _
  | s :: ss, h =>
    simp only [sourcesToks, List.map_append, List.append_assoc]
    exact up_source_ahead s h.1 _ ((up_sources_next h.2 X).mono fun k hk => by
      rcases hk with hk | rfl
      · exact up_ne_of hk rfl
      · decide)

theorem up_srcItems_start {items : List SrcItem} (hne : items ≠ []) (h : SrcItemsPrintable items) :
    ∃ s tl, srcItemsToks items = s :: kw .kwFrom "from" :: tl ∧ isAllotHead s.1 = true := by
  match items, hne, h with
  | .mk _ a _ :: _, _, h =>
    obtain ⟨s, hs, hk, _⟩ := up_allot a h.1
    exact ⟨s, _, by simp only [srcItemsToks, hs, List.cons_append, List.nil_append]; rfl, hk⟩

/-- what follows a source inside braces (a source, an allotment head, `}`) ends an address -/
theorem up_Next.stopS {p : TK → Bool} {ts : List Tok} (h : up_Next (fun k => p k = true ∨ k = .rbrace) ts)
    (hp : p .plus = false ∧ p .minus = false ∧ p .kwAllowing = false) : up_stopS ts :=
  h.mono fun k hk => by
    rcases hk with hk | rfl
    · exact ⟨up_ne_of hk hp.1, up_ne_of hk hp.2.1, up_ne_of hk hp.2.2⟩
    · decide

/-- The lists stand in front of their closing `}`, which is how their parsers know where to stop.
    Fuel: a parser hands its callees one unit less, so the constant grows by one with every call
    that consumes nothing: `pSource` calls `pExpr` (`+ 3`), `pSources` calls `pSource` (`+ 4`),
    `pSrcInorder` calls `pSources` (`+ 5`). -/
theorem up_source_ok : ∀ f : Nat,
    (∀ s : Source, s.Printable → ∀ rest : List Tok, up_stopS rest → 2 * s.toks.length + 3 ≤ f →
      ∃ s' stop, pSource f (s.toks.map up_tok ++ rest) = some (s', stop, rest) ∧ s'.skel = s.skel) ∧
    (∀ ss : List Source, SourcesPrintable ss → ∀ (lb : Tok) (rest : List Tok),
      2 * (sourcesToks ss).length + 5 ≤ f →
      ∃ ss', pSrcInorder f lb ((sourcesToks ss).map up_tok ++ up_tok (kw .rbrace "}") :: rest) =
          some (.inorder (rangeOf lb (up_tok (kw .rbrace "}"))) ss', up_tok (kw .rbrace "}"), rest) ∧
        sourcesSkel ss' = sourcesSkel ss) ∧
    (∀ ss : List Source, SourcesPrintable ss → ∀ rest : List Tok,
      2 * (sourcesToks ss).length + 4 ≤ f →
      ∃ ss', pSources f ((sourcesToks ss).map up_tok ++ up_tok (kw .rbrace "}") :: rest) =
          some (ss', up_tok (kw .rbrace "}") :: rest) ∧ sourcesSkel ss' = sourcesSkel ss) ∧
    (∀ items : List SrcItem, items ≠ [] → SrcItemsPrintable items → ∀ rest : List Tok,
      2 * (srcItemsToks items).length + 3 ≤ f →
      ∃ items', pSrcItems f ((srcItemsToks items).map up_tok ++ up_tok (kw .rbrace "}") :: rest) =
          some (items', up_tok (kw .rbrace "}") :: rest) ∧
        srcItemsSkel items' = srcItemsSkel items) := by
  intro f
  induction f with
  | zero =>
    exact ⟨fun _ _ _ _ _ => by omega, fun _ _ _ _ _ => by omega, fun _ _ _ _ => by omega,
      fun _ _ _ _ _ => by omega⟩
  | succ f ih =>
    obtain ⟨ihS, ihI, ihSs, ihIt⟩ := ih
    refine ⟨?_, ?_, ?_, ?_⟩
    · intro s hp rest hrest hf
      match s, hp with
      | .account e, hp =>
        simp only [Source.toks] at hf ⊢
        obtain ⟨e', se, hpe, hske⟩ := up_expr hp rest f (hrest.mono fun _ h => ⟨h.1, h.2.1⟩) (by omega)
        obtain ⟨s0, tl, hs0, hlb, hmx⟩ := up_expr_account e hp
        simp only [hs0, List.map_cons, List.cons_append] at hpe ⊢
        simp only [pt_source_eq, up_tok_kind, hlb, hmx, ↓reduceIte, hpe,
          Option.bind_some, up_expect_miss (hrest.mono fun _ h => h.2.2)]
        exact ⟨_, _, rfl, by simp only [Source.skel, hske]⟩
      | .overdraft _ addr none, hp =>
        simp only [Source.toks, List.length_append, List.length_cons, List.length_nil] at hf
        obtain ⟨e', se, hpe, hske⟩ := up_expr hp (up_tok (kw .kwAllowing "allowing") ::
          up_tok (kw .kwUnbounded "unbounded") :: up_tok (kw .kwOverdraft "overdraft") :: rest) f
          (.cons (by decide)) (by omega)
        obtain ⟨s0, tl, hs0, hlb, hmx⟩ := up_expr_account addr hp
        simp only [Source.toks, hs0, List.map_cons, List.map_append, List.map_nil, List.cons_append,
          List.append_assoc, List.nil_append] at hpe ⊢
        simp only [pt_source_eq, up_tok_kind, hlb, hmx, ↓reduceIte, hpe,
          Option.bind_some, up_expect_hit]
        exact ⟨_, _, rfl, by simp only [Source.skel, hske]⟩
      | .overdraft _ addr (some b), hp =>
        simp only [Source.toks, List.length_append, List.length_cons, List.length_nil] at hf
        obtain ⟨e', se, hpe, hske⟩ := up_expr hp.1 (up_tok (kw .kwAllowing "allowing") ::
          up_tok (kw .kwOverdraft "overdraft") :: up_tok (kw .kwUp "up") :: up_tok (kw .kwTo "to") ::
          (b.toks.map up_tok ++ rest)) f (.cons (by decide)) (by omega)
        obtain ⟨b', sb, hpb, hskb⟩ := up_expr hp.2 rest f (hrest.mono fun _ h => ⟨h.1, h.2.1⟩)
          (by omega)
        obtain ⟨s0, tl, hs0, hlb, hmx⟩ := up_expr_account addr hp.1
        simp only [Source.toks, hs0, List.map_cons, List.map_append, List.cons_append,
          List.append_assoc, List.nil_append] at hpe ⊢
        simp only [pt_source_eq, up_tok_kind, hlb, hmx, ↓reduceIte, hpe,
          Option.bind_some, up_expect_hit, hpb]
        exact ⟨_, _, rfl, by simp only [Source.skel, hske, hskb]⟩
      | .inorder _ srcs, hp =>
        simp only [Source.toks, List.length_cons, List.length_append, List.length_nil] at hf
        obtain ⟨ss', hpi, hsk⟩ := ihI srcs hp (up_tok (kw .lbrace "{")) rest (by omega)
        simp only [Source.toks, List.map_cons, List.map_append, List.map_nil, List.cons_append,
          List.append_assoc, List.nil_append, pt_source_eq, up_kw_kind, ↓reduceIte,
          up_sources_ahead srcs hp rest, Bool.false_eq_true, hpi]
        exact ⟨_, _, rfl, by simp only [Source.skel, hsk]⟩
      | .capped _ cap src, hp =>
        simp only [Source.toks, List.length_cons, List.length_append] at hf
        obtain ⟨c', sc, hpc, hskc⟩ := up_expr hp.1
          (up_tok (kw .kwFrom "from") :: (src.toks.map up_tok ++ rest)) f (.cons (by decide)) (by omega)
        obtain ⟨s', ss, hps, hsks⟩ := ihS src hp.2 rest hrest (by omega)
        simp only [Source.toks, List.map_cons, List.map_append, List.cons_append, List.append_assoc,
          pt_source_eq, up_kw_kind, reduceCtorEq, ↓reduceIte, hpc, up_expect_hit, hps,
          Option.bind_some]
        exact ⟨_, _, rfl, by simp only [Source.skel, hskc, hsks]⟩
      | .allotment _ items, hp =>
        simp only [Source.toks, List.length_cons, List.length_append, List.length_nil] at hf
        obtain ⟨is', hpi, hsk⟩ := ihIt items hp.1 hp.2 rest (by omega)
        obtain ⟨s0, tl, hs0, hk⟩ := up_srcItems_start hp.1 hp.2
        have ha : pt_allotAhead ((srcItemsToks items).map up_tok ++ up_tok (kw .rbrace "}") :: rest) =
            true := by simp [hs0, pt_allotAhead, up_tok_kind, hk, kw]
        simp only [Source.toks, List.map_cons, List.map_append, List.map_nil, List.cons_append,
          List.append_assoc, List.nil_append, pt_source_eq, up_kw_kind, ↓reduceIte, ha, hpi,
          up_expect_hit, Option.bind_some]
        exact ⟨_, _, rfl, by simp only [Source.skel, hsk]⟩
    · intro ss hp lb rest hf
      obtain ⟨ss', hps, hsk⟩ := ihSs ss hp rest (by omega)
      simp only [pt_srcInorder_eq, hps, up_expect_hit, Option.bind_some]
      exact ⟨_, rfl, hsk⟩
    · intro ss hp rest hf
      match ss, hp with
      | [], _ =>
        simp only [sourcesToks, List.map_nil, List.nil_append, pt_sources_eq, up_kw_kind,
          show isSourceStart .rbrace = false from rfl, Bool.false_eq_true, ↓reduceIte]
        exact ⟨_, rfl, rfl⟩
      | s :: ss', hp =>
        simp only [sourcesToks, List.length_append] at hf
        have hl := (up_source_head s hp.1).length
        obtain ⟨s0, tl, hs0, hk⟩ := up_source_head s hp.1
        obtain ⟨s', st, hps, hsks⟩ := ihS s hp.1 _ ((up_sources_next hp.2 rest).stopS ⟨rfl, rfl, rfl⟩)
          (by omega)
        obtain ⟨ss'', hpss, hskss⟩ := ihSs ss' hp.2 rest (by omega)
        simp only [sourcesToks, hs0, List.map_append, List.map_cons, List.cons_append,
          List.append_assoc] at hps ⊢
        simp only [pt_sources_eq, up_tok_kind, hk, ↓reduceIte, hps, hpss, Option.bind_some]
        exact ⟨_, rfl, by simp only [sourcesSkel, hsks, hskss]⟩
    · intro items hne hp rest hf
      match items, hne, hp with
      | .mk _ a src :: its, _, hp =>
        obtain ⟨sa, hsa, hak, av, hav, hska⟩ := up_allot a hp.1
        simp only [srcItemsToks, hsa, List.length_append, List.length_cons, List.length_nil] at hf
        obtain ⟨s', st, hps, hsks⟩ := ihS src hp.2.1 _
          ((up_srcItems_next hp.2.2 rest).stopS ⟨rfl, rfl, rfl⟩) (by omega)
        simp only [srcItemsToks, hsa, List.map_append, List.map_cons, List.cons_append,
          List.nil_append, List.append_assoc, pt_srcItems_eq, hav, up_expect_hit, hps,
          Option.bind_some]
        cases its with
        | nil =>
          simp only [srcItemsToks, List.map_nil, List.nil_append, pt_allotNext, up_kw_kind,
            show isAllotHead .rbrace = false from rfl, Bool.false_eq_true, ↓reduceIte]
          exact ⟨_, rfl, by simp only [srcItemsSkel, hska, hsks]⟩
        | cons it2 its2 =>
          obtain ⟨is', hpi, hski⟩ := ihIt (it2 :: its2) nofun hp.2.2 rest (by omega)
          obtain ⟨s0, tl, hs0, hk⟩ := up_srcItems_start (items := it2 :: its2) nofun hp.2.2
          have hn : pt_allotNext ((srcItemsToks (it2 :: its2)).map up_tok ++
              up_tok (kw .rbrace "}") :: rest) = true := by simp [hs0, pt_allotNext, up_tok_kind, hk]
          simp only [hn, ↓reduceIte, hpi, Option.bind_some]
          exact ⟨_, rfl, by simp only [srcItemsSkel, hska, hsks, hski]⟩

/-! ### destinations -/

theorem up_kod_stopE {k : KoD} (hp : k.Printable) (X : List Tok) : up_stopE (k.toks.map up_tok ++ X) := by
  match k, hp with
  | .kept _, _ | .to _, _ => exact .cons (by decide)

theorem up_clauses_start {cs : List DestClause} (hne : cs ≠ []) :
    ∃ tl, clausesToks cs = kw .kwMax "max" :: tl := by
  match cs, hne with
  | .mk _ _ _ :: _, _ => exact ⟨_, rfl⟩

theorem up_clauses_stopE (cs : List DestClause) (X : List Tok) :
    up_stopE ((clausesToks cs).map up_tok ++ up_tok (kw .kwRemaining "remaining") :: X) := by
  match cs with
  | [] => exact .cons (by decide)
  | .mk _ _ _ :: _ => exact .cons (by decide)

theorem up_dstItems_start {items : List DestItem} (hne : items ≠ []) (h : DstItemsPrintable items) :
    up_Starts (isAllotHead · = true) (dstItemsToks items) := by
  match items, hne, h with
  | .mk _ a _ :: _, _, h =>
    obtain ⟨s, hs, hk, _⟩ := up_allot a h.1
    exact ⟨s, _, by simp only [dstItemsToks, hs, List.cons_append, List.nil_append]; rfl, hk⟩

theorem up_dstItems_stopE {items : List DestItem} (h : DstItemsPrintable items) (X : List Tok) :
    up_stopE ((dstItemsToks items).map up_tok ++ up_tok (kw .rbrace "}") :: X) := by
  match items, h with
  | [], _ => exact .cons (by decide)
  | it :: its, h =>
    exact ((up_dstItems_start (items := it :: its) nofun h).next _).mono fun _ hk =>
      ⟨up_ne_of hk rfl, up_ne_of hk rfl⟩

/-- the clauses stand in front of `remaining` -/
theorem up_dest_ok : ∀ f : Nat,
    (∀ d : Dest, d.Printable → ∀ rest : List Tok, up_stopE rest → 2 * d.toks.length + 3 ≤ f →
      ∃ d' stop, pDest f (d.toks.map up_tok ++ rest) = some (d', stop, rest) ∧ d'.skel = d.skel) ∧
    (∀ k : KoD, k.Printable → ∀ rest : List Tok, up_stopE rest → 2 * k.toks.length + 3 ≤ f →
      ∃ k' stop, pKoD f (k.toks.map up_tok ++ rest) = some (k', stop, rest) ∧ k'.skel = k.skel) ∧
    (∀ cs : List DestClause, ClausesPrintable cs → ∀ rest : List Tok,
      2 * (clausesToks cs).length + 3 ≤ f →
      ∃ cs', pClauses f ((clausesToks cs).map up_tok ++ up_tok (kw .kwRemaining "remaining") :: rest) =
          some (cs', up_tok (kw .kwRemaining "remaining") :: rest) ∧
        clausesSkel cs' = clausesSkel cs) ∧
    (∀ items : List DestItem, items ≠ [] → DstItemsPrintable items → ∀ rest : List Tok,
      2 * (dstItemsToks items).length + 3 ≤ f →
      ∃ items', pDstItems f ((dstItemsToks items).map up_tok ++ up_tok (kw .rbrace "}") :: rest) =
          some (items', up_tok (kw .rbrace "}") :: rest) ∧
        dstItemsSkel items' = dstItemsSkel items) := by
  intro f
  induction f with
  | zero =>
    exact ⟨fun _ _ _ _ _ => by omega, fun _ _ _ _ _ => by omega, fun _ _ _ _ => by omega,
      fun _ _ _ _ _ => by omega⟩
  | succ f ih =>
    obtain ⟨ihD, ihK, ihC, ihIt⟩ := ih
    refine ⟨?_, ?_, ?_, ?_⟩
    · intro d hp rest hrest hf
      match d, hp with
      | .account e, hp =>
        simp only [Dest.toks] at hf ⊢
        obtain ⟨e', se, hpe, hske⟩ := up_expr hp rest f hrest (by omega)
        obtain ⟨s0, tl, hs0, hlb, -⟩ := up_expr_account e hp
        simp only [hs0, List.map_cons, List.cons_append] at hpe ⊢
        simp only [pt_dest_eq, up_tok_kind, hlb, ↓reduceIte, hpe, Option.bind_some]
        exact ⟨_, _, rfl, by simp only [Dest.skel, hske]⟩
      | .inorder _ cs k, hp =>
        simp only [Dest.toks, List.length_cons, List.length_append, List.length_nil] at hf
        obtain ⟨cs', hpc, hskc⟩ := ihC cs hp.2.1 (k.toks.map up_tok ++ up_tok (kw .rbrace "}") :: rest)
          (by omega)
        obtain ⟨k', sk, hpk, hskk⟩ := ihK k hp.2.2 (up_tok (kw .rbrace "}") :: rest)
          (.cons (by decide)) (by omega)
        obtain ⟨tl, hcs⟩ := up_clauses_start hp.1
        simp only [Dest.toks, hcs, List.map_cons, List.map_append, List.map_nil, List.cons_append,
          List.append_assoc, List.nil_append] at hpc ⊢
        simp only [pt_dest_eq, up_kw_kind, ↓reduceIte, hpc, up_expect_hit, hpk, Option.bind_some]
        exact ⟨_, _, rfl, by simp only [Dest.skel, hskc, hskk]⟩
      | .allotment _ items, hp =>
        simp only [Dest.toks, List.length_cons, List.length_append, List.length_nil] at hf
        obtain ⟨is', hpi, hsk⟩ := ihIt items hp.1 hp.2 rest (by omega)
        obtain ⟨s0, tl, hs0, hk⟩ := up_dstItems_start hp.1 hp.2
        simp only [Dest.toks, hs0, List.map_cons, List.map_append, List.map_nil, List.cons_append,
          List.append_assoc, List.nil_append] at hpi ⊢
        simp only [pt_dest_eq, up_tok_kind, (up_ne_of hk rfl : s0.1 ≠ .kwMax), hk, ↓reduceIte, hpi,
          up_expect_hit, Option.bind_some]
        exact ⟨_, _, rfl, by simp only [Dest.skel, hsk]⟩
    · intro k hp rest hrest hf
      match k, hp with
      | .kept _, _ =>
        simp only [KoD.toks, List.map_cons, List.map_nil, List.cons_append, List.nil_append, pt_kod_eq,
          up_kw_kind, ↓reduceIte]
        exact ⟨_, _, rfl, rfl⟩
      | .to d, hp =>
        simp only [KoD.toks, List.length_cons] at hf
        obtain ⟨d', sd, hpd, hskd⟩ := ihD d hp rest hrest (by omega)
        simp only [KoD.toks, List.map_cons, List.cons_append, pt_kod_eq, up_kw_kind, reduceCtorEq,
          ↓reduceIte, hpd, Option.bind_some]
        exact ⟨_, _, rfl, by simp only [KoD.skel, hskd]⟩
    · intro cs hp rest hf
      match cs, hp with
      | [], _ =>
        simp only [clausesToks, List.map_nil, List.nil_append, pt_clauses_eq, up_kw_kind, reduceCtorEq,
          ↓reduceIte]
        exact ⟨_, rfl, rfl⟩
      | .mk _ cap k :: cs', hp =>
        simp only [clausesToks, List.length_cons, List.length_append] at hf
        obtain ⟨c', sc, hpc, hskc⟩ := up_expr hp.1 (k.toks.map up_tok ++ ((clausesToks cs').map up_tok ++
          up_tok (kw .kwRemaining "remaining") :: rest)) f (up_kod_stopE hp.2.1 _) (by omega)
        obtain ⟨k', sk, hpk, hskk⟩ := ihK k hp.2.1 _ (up_clauses_stopE cs' rest) (by omega)
        obtain ⟨cs'', hpcs, hskcs⟩ := ihC cs' hp.2.2 rest (by omega)
        simp only [clausesToks, List.map_cons, List.map_append, List.cons_append, List.append_assoc,
          pt_clauses_eq, up_kw_kind, ↓reduceIte, hpc, hpk, hpcs, Option.bind_some]
        exact ⟨_, rfl, by simp only [clausesSkel, hskc, hskk, hskcs]⟩
    · intro items hne hp rest hf
      match items, hne, hp with
      | .mk _ a k :: its, _, hp =>
        obtain ⟨sa, hsa, hak, av, hav, hska⟩ := up_allot a hp.1
        simp only [dstItemsToks, hsa, List.length_append, List.length_cons, List.length_nil] at hf
        obtain ⟨k', sk, hpk, hskk⟩ := ihK k hp.2.1 _ (up_dstItems_stopE hp.2.2 rest) (by omega)
        simp only [dstItemsToks, hsa, List.map_append, List.map_cons, List.cons_append,
          List.nil_append, List.append_assoc, pt_dstItems_eq, hav, hpk, Option.bind_some]
        cases its with
        | nil =>
          simp only [dstItemsToks, List.map_nil, List.nil_append, pt_allotNext, up_kw_kind,
            show isAllotHead .rbrace = false from rfl, Bool.false_eq_true, ↓reduceIte]
          exact ⟨_, rfl, by simp only [dstItemsSkel, hska, hskk]⟩
        | cons it2 its2 =>
          obtain ⟨is', hpi, hski⟩ := ihIt (it2 :: its2) nofun hp.2.2 rest (by omega)
          obtain ⟨s0, tl, hs0, hk⟩ := up_dstItems_start (items := it2 :: its2) nofun hp.2.2
          have hn : pt_allotNext ((dstItemsToks (it2 :: its2)).map up_tok ++
              up_tok (kw .rbrace "}") :: rest) = true := by simp [hs0, pt_allotNext, up_tok_kind, hk]
          simp only [hn, ↓reduceIte, hpi, Option.bind_some]
          exact ⟨_, rfl, by simp only [dstItemsSkel, hska, hskk, hski]⟩

/-! ### sent values -/

/-- an expression written with `[` first is a monetary literal, possibly followed by operands -/
theorem up_expr_bracket : ∀ e : Expr, e.Printable → ∀ s tl, e.toks = s :: tl → s.1 = .lbracket →
    ∃ (a b : Expr) (tl' : List Shape), a.Printable ∧ b.Printable ∧ tl = a.toks ++ (b.toks ++ tl') := by
  intro e
  induction e with
  | nil | monetaryNil => exact False.elim
  | monetary r a b _ _ =>
    intro h s tl heq _
    simp only [Expr.toks, List.cons_append, List.append_assoc, List.cons.injEq] at heq
    exact ⟨a, b, _, h.1, h.2, heq.2.symm⟩
  | «infix» r op l r' ihl _ =>
    intro h s tl heq hs
    obtain ⟨s0, tl0, hl0, _⟩ := up_expr_head l h.1
    simp only [Expr.toks, hl0, List.cons_append, List.append_assoc, List.cons.injEq] at heq
    obtain ⟨a, b, tl', ha, hb, htl⟩ := ihl h.1 s0 tl0 hl0 (heq.1 ▸ hs)
    exact ⟨a, b, _, ha, hb, by rw [← heq.2, htl, List.append_assoc, List.append_assoc]⟩
  | _ =>
    intro _ s tl heq hs
    simp only [Expr.toks, List.cons.injEq] at heq
    rw [← heq.1] at hs
    exact absurd hs (by simp)

theorem up_sentValue (sv : SentValue) (hp : sv.Printable) (rest : List Tok) (f : Nat)
    (hrest : up_stopE rest) (hf : 2 * sv.toks.length + 2 ≤ f) :
    ∃ sv' stop, pSentValue f (sv.toks.map up_tok ++ rest) = some (sv', stop, rest) ∧
      sv'.skel = sv.skel := by
  match sv, hp with
  | .lit _ m, hp =>
    simp only [SentValue.toks] at hf ⊢
    obtain ⟨e', se, hpe, hske⟩ := up_expr hp rest f hrest hf
    obtain ⟨s, tl, hm, _⟩ := up_expr_head m hp
    by_cases hb : s.1 = .lbracket
    · obtain ⟨a, b, tl', ha, hb', rfl⟩ := up_expr_bracket m hp s _ hm hb
      simp only [hm, List.length_cons, List.length_append] at hf
      obtain ⟨a', sa, hpa, hska⟩ := up_expr ha (b.toks.map up_tok ++ (tl'.map up_tok ++ rest)) f
        (up_expr_stopE hb' _) (by omega)
      have hmiss : expect .star (b.toks.map up_tok ++ (tl'.map up_tok ++ rest)) = none :=
        up_expect_miss (((up_expr_head b hb').next _).mono fun _ hk =>
          up_ne_of hk rfl)
      simp only [hm, List.map_cons, List.map_append, List.cons_append, List.append_assoc] at hpe ⊢
      simp only [pt_sentValue_eq, up_tok_kind, hb, ↓reduceIte, hpa, hmiss, hpe, Option.bind_some]
      exact ⟨_, _, rfl, by simp only [SentValue.skel, hske]⟩
    · simp only [hm, List.map_cons, List.cons_append] at hpe ⊢
      simp only [pt_sentValue_eq, up_tok_kind, hb, ↓reduceIte, hpe, Option.bind_some]
      exact ⟨_, _, rfl, by simp only [SentValue.skel, hske]⟩
  | .all _ a, hp =>
    simp only [SentValue.toks, List.length_cons, List.length_append, List.length_nil] at hf
    obtain ⟨a', sa, hpa, hska⟩ := up_expr hp
      (up_tok (kw .star "*") :: up_tok (kw .rbracket "]") :: rest) f (.cons (by decide)) (by omega)
    simp only [SentValue.toks, List.map_cons, List.map_append, List.map_nil, List.cons_append,
      List.append_assoc, List.nil_append, pt_sentValue_eq, up_kw_kind, ↓reduceIte, hpa, up_expect_hit,
      Option.bind_some]
    exact ⟨_, _, rfl, by simp only [SentValue.skel, hska]⟩

/-! ### statements -/

theorem up_statement (s : Statement) (hp : s.Printable) (rest : List Tok) (f : Nat)
    (hrest : up_stopE rest) (hf : 2 * s.toks.length + 3 ≤ f) :
    ∃ s' stop, pStatement f (s.toks.map up_tok ++ rest) = some (s', stop, rest) ∧ s'.skel = s.skel := by
  match s, hp with
  | .send _ sv src dst, hp =>
    simp only [Statement.toks, List.length_cons, List.length_append, List.length_nil] at hf
    obtain ⟨sv', s1, hpsv, hsksv⟩ := up_sentValue sv hp.1 (up_tok (kw .lparen "(") ::
      up_tok (kw .kwSource "source") :: up_tok (kw .eq "=") :: (src.toks.map up_tok ++
        (up_tok (kw .kwDestination "destination") :: up_tok (kw .eq "=") :: (dst.toks.map up_tok ++
          (up_tok (kw .rparen ")") :: rest))))) f (.cons (by decide)) (by omega)
    obtain ⟨src', s2, hpsrc, hsksrc⟩ := (up_source_ok f).1 src hp.2.1
      (up_tok (kw .kwDestination "destination") :: up_tok (kw .eq "=") :: (dst.toks.map up_tok ++
        (up_tok (kw .rparen ")") :: rest))) (.cons (by decide)) (by omega)
    obtain ⟨dst', s3, hpdst, hskdst⟩ := (up_dest_ok f).1 dst hp.2.2 (up_tok (kw .rparen ")") :: rest)
      (.cons (by decide)) (by omega)
    simp only [Statement.toks, List.map_cons, List.map_append, List.map_nil, List.cons_append,
      List.append_assoc, List.nil_append, pt_statement_eq, up_kw_kind, ↓reduceIte, hpsv, hpsrc, hpdst,
      up_expect_hit, Option.bind_some]
    exact ⟨_, _, rfl, by simp only [Statement.skel, hsksv, hsksrc, hskdst]⟩
  | .save _ sv e, hp =>
    simp only [Statement.toks, List.length_cons, List.length_append] at hf
    obtain ⟨sv', s1, hpsv, hsksv⟩ := up_sentValue sv hp.1
      (up_tok (kw .kwFrom "from") :: (e.toks.map up_tok ++ rest)) f (.cons (by decide)) (by omega)
    obtain ⟨e', s2, hpe, hske⟩ := up_expr hp.2 rest f hrest (by omega)
    simp only [Statement.toks, List.map_cons, List.map_append, List.cons_append, List.append_assoc,
      pt_statement_eq, up_kw_kind, reduceCtorEq, ↓reduceIte, hpsv, hpe, up_expect_hit,
      Option.bind_some]
    exact ⟨_, _, rfl, by simp only [Statement.skel, hsksv, hske]⟩
  | .fnCall c, hp =>
    simp only [Statement.toks] at hf ⊢
    obtain ⟨c', sc, hpc, hskc⟩ := up_fnCall c hp rest f (by omega)
    have hns : (up_tok (fnNameTok c.name)).kind ≠ .kwSend ∧ (up_tok (fnNameTok c.name)).kind ≠ .kwSave := by
      rcases (up_fnNameTok c.name).1 with h | h <;> simp [h]
    simp only [FnCall.toks, List.map_cons, List.cons_append] at hpc ⊢
    simp only [pt_statement_eq, hns.1, hns.2, ↓reduceIte, hpc, Option.bind_some]
    exact ⟨_, _, rfl, by simp only [Statement.skel, hskc]⟩

def up_stmtStart (k : TK) : Prop := k = .kwSend ∨ k = .kwSave ∨ k = .ident ∨ k = .kwOverdraft

theorem up_stmt_head (s : Statement) (hp : s.Printable) : up_Starts up_stmtStart s.toks := by
  match s, hp with
  | .send _ _ _ _, _ => exact ⟨_, _, rfl, .inl rfl⟩
  | .save _ _ _, _ => exact ⟨_, _, rfl, .inr (.inl rfl)⟩
  | .fnCall c, _ =>
    exact ⟨_, _, rfl, by rcases (up_fnNameTok c.name).1 with h | h <;> simp [up_stmtStart, ← up_tok_kind, h]⟩

theorem up_stmts_next {ss : List Statement} (hp : ∀ s ∈ ss, s.Printable) :
    up_Next up_stmtStart ((ss.flatMap Statement.toks).map up_tok) := by
  match ss with
  | [] => exact nofun
  | s :: ss =>
    have := (up_stmt_head s (hp s (by simp))).next ((ss.flatMap Statement.toks).map up_tok)
    simpa only [List.flatMap_cons, List.map_append] using this

theorem up_statements (f : Nat) : ∀ (ss : List Statement), (∀ s ∈ ss, s.Printable) →
    ∀ n : Nat, ss.length < n → 2 * (ss.flatMap Statement.toks).length + 3 ≤ f →
    ∃ ss', pStatements f n ((ss.flatMap Statement.toks).map up_tok) = some ss' ∧
      ss'.map Statement.skel = ss.map Statement.skel
  | [], _, n, hn, _ => by
      obtain ⟨n', rfl⟩ := Nat.exists_eq_add_one_of_ne_zero (n := n) (by omega)
      exact ⟨[], pt_statements_nil f n', rfl⟩
  | s :: ss, hp, n, hn, hf => by
      have hps := List.forall_mem_cons.1 hp
      simp only [List.length_cons] at hn
      obtain ⟨n', rfl⟩ := Nat.exists_eq_add_one_of_ne_zero (n := n) (by omega)
      simp only [List.flatMap_cons, List.length_append] at hf
      have hl := (up_stmt_head s hps.1).length
      obtain ⟨a, tl, ha, _⟩ := up_stmt_head s hps.1
      obtain ⟨s', st, hps', hsk⟩ := up_statement s hps.1 ((ss.flatMap Statement.toks).map up_tok) f
        ((up_stmts_next hps.2).mono fun k hk => by rcases hk with h | h | h | h <;> simp [h]) (by omega)
      obtain ⟨ss', hpss, hsks⟩ := up_statements f ss hps.2 n' (by omega) (by omega)
      simp only [List.flatMap_cons, List.map_append, ha, List.map_cons, List.cons_append] at hps' ⊢
      simp only [pt_statements_eq, hps', hpss, Option.bind_some]
      exact ⟨_, rfl, by simp only [List.map_cons, hsk, hsks]⟩

/-! ### declarations -/

theorem up_varDecl_head (d : VarDecl) (hp : d.Printable) : up_Starts (· = .ident) d.toks := by
  obtain ⟨r, nr, n, tr, t, o, rfl, -⟩ := up_varDecl_shape d hp
  exact ⟨_, _, rfl, rfl⟩

theorem up_varDecl (d : VarDecl) (hp : d.Printable) (rest : List Tok) (f : Nat)
    (hrest : up_Next (· ≠ .eq) rest) (hf : 2 * d.toks.length + 2 ≤ f) :
    ∃ d' stop, pVarDecl f (d.toks.map up_tok ++ rest) = some (d', stop, rest) ∧ d'.skel = d.skel := by
  obtain ⟨r, nr, n, tr, t, o, rfl, h3⟩ := up_varDecl_shape d hp
  cases o with
  | none =>
    simp only [VarDecl.toks, List.map_cons, List.map_nil, List.cons_append, List.nil_append,
      pt_varDecl_eq, up_tok_kind, and_self, ↓reduceIte, up_expect_miss hrest]
    exact ⟨_, _, rfl, by simp [VarDecl.skel, tokString, up_tok]⟩
  | some c =>
    simp only [VarDecl.toks, List.length_cons] at hf
    obtain ⟨c', sc, hpc, hskc⟩ := up_fnCall c (h3 c rfl) rest f (by omega)
    simp only [VarDecl.toks, List.map_cons, List.cons_append, pt_varDecl_eq, up_tok_kind, and_self,
      ↓reduceIte, up_expect_hit, hpc, Option.bind_some]
    exact ⟨_, _, rfl, by simp [VarDecl.skel, tokString, up_tok, hskc]⟩

theorem up_varDecls (f : Nat) : ∀ (ds : List VarDecl), (∀ d ∈ ds, d.Printable) →
    ∀ (n : Nat) (rest : List Tok), ds.length < n → 2 * (ds.flatMap VarDecl.toks).length + 2 ≤ f →
    ∃ ds', pVarDecls f n ((ds.flatMap VarDecl.toks).map up_tok ++ up_tok (kw .rbrace "}") :: rest) =
        some (ds', rest) ∧ ds'.map VarDecl.skel = ds.map VarDecl.skel
  | [], _, n, rest, hn, _ => by
      obtain ⟨n', rfl⟩ := Nat.exists_eq_add_one_of_ne_zero (n := n) (by omega)
      exact ⟨[], (pt_varDecls_eq f n' _ rest).trans (if_pos rfl), rfl⟩
  | d :: ds, hp, n, rest, hn, hf => by
      have hps := List.forall_mem_cons.1 hp
      simp only [List.length_cons] at hn
      obtain ⟨n', rfl⟩ := Nat.exists_eq_add_one_of_ne_zero (n := n) (by omega)
      simp only [List.flatMap_cons, List.length_append] at hf
      have hl := (up_varDecl_head d hps.1).length
      obtain ⟨a, tl, ha, hk⟩ := up_varDecl_head d hps.1
      have hstop : up_Next (· ≠ .eq) ((ds.flatMap VarDecl.toks).map up_tok ++
          up_tok (kw .rbrace "}") :: rest) := by
        match ds, hps.2 with
        | [], _ => exact .cons (by decide)
        | d2 :: _, h2 =>
          simp only [List.flatMap_cons, List.map_append, List.append_assoc]
          exact ((up_varDecl_head d2 (h2 d2 (by simp))).next _).mono fun _ h => by simp [h]
      obtain ⟨d', st, hpd, hsk⟩ := up_varDecl d hps.1 _ f hstop (by omega)
      obtain ⟨ds', hpds, hsks⟩ := up_varDecls f ds hps.2 n' rest (by omega) (by omega)
      simp only [List.flatMap_cons, List.map_append, ha, List.map_cons, List.cons_append,
        List.append_assoc] at hpd ⊢
      simp only [pt_varDecls_eq, up_tok_kind, hk, reduceCtorEq, ↓reduceIte, hpd, hpds, Option.bind_some]
      exact ⟨_, rfl, by simp only [List.map_cons, hsk, hsks]⟩

/-! ### whole scripts -/

theorem up_flatMap_length {α : Type} (tk : α → List Shape) : ∀ l : List α,
    (∀ x ∈ l, 1 ≤ (tk x).length) → l.length ≤ (l.flatMap tk).length
  | [], _ => by simp
  | x :: l, h => by
      have h1 := h x (by simp)
      have h2 := up_flatMap_length tk l (fun y hy => h y (by simp [hy]))
      simp only [List.flatMap_cons, List.length_append, List.length_cons]
      omega

theorem up_parseTokens_novars (ts : List Tok) (h : up_Next (· ≠ .kwVars) ts) :
    parseTokens ts =
      (pStatements (4 * ts.length + 8) (ts.length + 1) ts).bind fun ss => some ⟨[], ss⟩ := by
  rw [pt_parseTokens_eq]
  match ts, h with
  | [], _ | [_], _ => rfl
  | v :: _ :: _, h => simp only [h v rfl, ↓reduceIte]

theorem up_program (p : Program) (hp : p.Printable) :
    (parseTokens (p.toks.map up_tok)).map Program.skel = some p.skel := by
  obtain ⟨vars, stmts⟩ := p
  obtain ⟨hv, hs⟩ := hp
  have hsl := up_flatMap_length _ stmts fun s h => (up_stmt_head s (hs s h)).length
  have hdl := up_flatMap_length _ vars fun d h => (up_varDecl_head d (hv d h)).length
  by_cases hvn : vars = []
  · subst hvn
    simp only [Program.toks, ↓reduceIte, List.nil_append]
    rw [up_parseTokens_novars _ ((up_stmts_next hs).mono fun k hk => by
      rcases hk with h | h | h | h <;> simp [h]), List.length_map]
    obtain ⟨ss', hps, hsk⟩ := up_statements (4 * (stmts.flatMap Statement.toks).length + 8) stmts hs
      ((stmts.flatMap Statement.toks).length + 1) (by omega) (by omega)
    simp only [hps, Option.bind_some, Option.map_some, Program.skel, hsk, List.map_nil]
  · simp only [Program.toks, hvn, ↓reduceIte, List.map_cons, List.map_append,
      List.cons_append, List.append_assoc, List.nil_append, pt_parseTokens_eq, up_kw_kind]
    generalize hL : List.length (up_tok (kw .kwVars "vars") :: _) = L
    simp only [List.length_cons, List.length_append, List.length_map] at hL
    obtain ⟨ds', hpd, hskd⟩ := up_varDecls (4 * L + 8) vars hv (L + 1)
      ((stmts.flatMap Statement.toks).map up_tok) (by omega) (by omega)
    obtain ⟨ss', hps, hsk⟩ := up_statements (4 * L + 8) stmts hs (L + 1) (by omega) (by omega)
    simp only [hpd, hps, Option.bind_some, Option.map_some, Program.skel, hskd, hsk]

end NS
