import Proofs.ParserInv
import Proofs.AllotLemmas
import Proofs.ReconcileLemmas
import Proofs.DrawBoundLemmas
import Proofs.DistributeLemmas
import Proofs.DrawLemmas
import Proofs.ReconcileTotals
import Proofs.StatementLemmas
import Proofs.LedgerLemmas
import Proofs.ProgramLemmas
import Proofs.NoPanicLemmas
import Proofs.TextLemmas
import Proofs.LspLemmas
import Proofs.StoreLemmas
import Proofs.NamesLemmas
import Proofs.AnalysisLemmas
import Proofs.SoundnessLemmas
import Proofs.ShowLemmas
import Proofs.ValidLemmas
import Proofs.ExampleLemmas
import Proofs.LexLemmas
import Proofs.ParserEquations
import Proofs.ParseLemmas
import Proofs.ParseRangeLemmas
import Proofs.EndToEndLemmas
import Proofs.UnparseLemmas
import Proofs.LongestMatch
import Proofs.GrammarLemmas
import Proofs.FrameLemmas
import Proofs.LexAllLemmas
import Proofs.LayoutLemmas
