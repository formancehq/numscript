/-
  Properties/C16a.lean — the checker never cries wolf: a script that is valid by
  the language's static rules (Spec/Valid.lean: every expression has the type its
  position requires given the declared variable types and builtin signatures,
  literal portions sum to one — or less with something to absorb the rest —,
  send-all sources are bounded outside caps) receives no error-severity
  diagnostic.  Warnings (unused variable, emptied account, redundant remaining…)
  are allowed.
-/
import Spec.Valid
import Proofs.ValidLemmas

namespace NS

/-- expressions: a well-typed expression checked against a type it fits adds no error -/
theorem valid_expr_no_error (Γ : TyEnv) (st : CState) (e : Expr) (τ : String)
    (henv : ∀ name, (lookupDecl st name).bind (fun d => d.type.map (·.2)) = Γ.lookup name)
    (hallowed : ∀ name ty, Γ.lookup name = some ty → isTypeAllowed ty = true)
    (hfit : Fits Γ e τ) :
    ∃ st', checkExpression st e τ = .ok st' ∧ errorCount st'.diags = errorCount st.diags ∧
      st'.declared = st.declared := by
  obtain ⟨st', h, q⟩ := vd_checkExpr_fits (Γ := Γ) hallowed hfit st henv
  exact ⟨st', h, q.errorCount, q.declared⟩

/-- whole scripts -/
theorem valid_has_no_error (prog : Program) (hv : prog.Valid) :
    ∃ st, checkProgram [] prog = .ok st ∧ errorCount st.diags = 0 := by
  obtain ⟨hd, hs⟩ := hv
  obtain ⟨st1, h1, e1, env1⟩ := vd_checkVarDecls prog.vars [] { diags := [] } hd (vd_EnvOk.init [])
  rw [List.nil_append] at env1
  obtain ⟨st2, h2, w2⟩ := vd_checkStatements env1.allowed prog.stmts st1 hs env1.look
  unfold checkProgram
  simp only [h1, h2]
  refine ⟨_, rfl, ?_⟩
  rw [sd_foldl_unused_errorCount, w2.2, e1]
  rfl

/-! a typing derivation for `$m + [USD 1]` with `m : monetary` -/
example : HasType [("m", "monetary")] (.infix Range.zero .plus (.var Range.zero "m")
    (.monetary Range.zero (.asset Range.zero "USD") (.number Range.zero 1))) "monetary" := by
  apply HasType.infixMonetary
  · exact HasType.var _ _ _ (by decide)
  · exact HasType.monetary _ _ _ (HasType.asset _ _) (HasType.number _ _)

end NS
