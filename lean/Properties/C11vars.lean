/-
  Properties/C11vars.lean — C11: the run is a function of the inputs the script can see.  Of the caller's variables
  map only the entries of declared variables without origin are read: two maps that agree on those give the same
  run (result, error or panic, store-call log included); in particular an entry for an undeclared name, and the
  order in which a map with distinct keys is listed, change nothing.
-/
import Model.Run

namespace NS

/-- the value the run reads for `name` -/
def rawLookup (raw : List (String × String)) (name : String) : Option String :=
  (raw.find? (fun p => p.1 == name)).map (·.2)

/-- `name` is declared by the script as a plain variable (no origin) -/
def DeclaredPlain (decls : List VarDecl) (name : String) : Prop :=
  ∃ d ∈ decls, ∃ r, d.name = some (r, name) ∧ d.origin = none

theorem parseVars_depends_only_on_declared (store : Store) (fl : Bool) (raw1 raw2 : List (String × String))
    (decls : List VarDecl) (h : ∀ name, DeclaredPlain decls name → rawLookup raw1 name = rawLookup raw2 name)
    (vars : Vars) (q : QState) :
    parseVars store fl raw1 decls vars q = parseVars store fl raw2 decls vars q := by
  induction decls generalizing vars q with
  | nil => simp only [parseVars]
  | cons d rest ih =>
    have hrest : ∀ name, DeclaredPlain rest name → rawLookup raw1 name = rawLookup raw2 name := by
      intro name ⟨d', hd', r, hn, ho⟩
      exact h name ⟨d', List.mem_cons_of_mem _ hd', r, hn, ho⟩
    unfold parseVars
    cases hn : d.name with
    | none => rfl
    | some rn =>
      obtain ⟨r, name⟩ := rn
      cases ht : d.type with
      | none => rfl
      | some rt =>
        obtain ⟨r', ty⟩ := rt
        cases ho : d.origin with
        | none =>
          have hl := h name ⟨d, List.mem_cons_self, r, hn, ho⟩
          simp only [rawLookup] at hl
          simp only [hl]
          cases (raw2.find? (fun p => p.1 == name)).map (·.2) with
          | none => rfl
          | some raw =>
            simp only []
            cases parseVar ty raw with
            | panic s => rfl
            | err e => rfl
            | ok v => exact ih hrest _ _
        | some fn =>
          simp only []
          cases handleOrigin store fl vars q ty fn with
          | panic s => rfl
          | err e => rfl
          | ok vq => exact ih hrest _ _

/-- C11: the run reads, of the variables map, exactly the entries of the declared plain variables -/
theorem run_depends_only_on_declared_vars (prog : Program) (raw1 raw2 : List (String × String)) (store : Store) (fl : Bool)
    (h : ∀ name, DeclaredPlain prog.vars name → rawLookup raw1 name = rawLookup raw2 name) :
    RunProgram prog raw1 store fl = RunProgram prog raw2 store fl := by
  unfold RunProgram
  rw [parseVars_depends_only_on_declared store fl raw1 raw2 prog.vars h]

/-- an entry for a name the script does not declare changes nothing, wherever it stands in the map -/
theorem run_ignores_undeclared_var (prog : Program) (pre post : List (String × String)) (k v : String)
    (store : Store) (fl : Bool) (hk : ¬ DeclaredPlain prog.vars k) :
    RunProgram prog (pre ++ (k, v) :: post) store fl = RunProgram prog (pre ++ post) store fl := by
  apply run_depends_only_on_declared_vars
  intro name hd
  have hne : (k == name) = false := by
    cases hkn : k == name with
    | false => rfl
    | true => exact absurd ((beq_iff_eq.mp hkn) ▸ hd) hk
  simp only [rawLookup, List.find?_append, hne, Bool.false_eq_true, not_false_eq_true,
    List.find?_cons_of_neg]

/-- a map has one entry per key: listed in another order it gives the same run -/
theorem rawLookup_perm (raw1 raw2 : List (String × String)) (hp : raw1.Perm raw2)
    (hnd : (raw1.map (·.1)).Nodup) (name : String) : rawLookup raw1 name = rawLookup raw2 name := by
  induction hp with
  | nil => rfl
  | cons x _ ih =>
    simp only [List.map_cons, List.nodup_cons] at hnd
    simp only [rawLookup, List.find?_cons] at ih ⊢
    cases x.1 == name with
    | true => rfl
    | false => exact ih hnd.2
  | swap x y l =>
    simp only [List.map_cons, List.nodup_cons, List.mem_cons, not_or] at hnd
    simp only [rawLookup, List.find?_cons]
    cases hx : x.1 == name <;> cases hy : y.1 == name <;>
      simp only [Option.map_some, Option.some.injEq]
    exact absurd ((beq_iff_eq.mp hy).trans (beq_iff_eq.mp hx).symm) hnd.1.1
  | trans h1 _ ih1 ih2 =>
    exact (ih1 hnd).trans (ih2 ((h1.map _).nodup_iff.mp hnd))

theorem run_vars_order_irrelevant (prog : Program) (raw1 raw2 : List (String × String)) (store : Store) (fl : Bool)
    (hp : raw1.Perm raw2) (hnd : (raw1.map (·.1)).Nodup) :
    RunProgram prog raw1 store fl = RunProgram prog raw2 store fl :=
  run_depends_only_on_declared_vars prog raw1 raw2 store fl (fun name _ => rawLookup_perm raw1 raw2 hp hnd name)

/-! non-vacuity (tests): a declared plain variable exists, and an undeclared name does not -/
example : DeclaredPlain [{ name := some (default, "x"), type := some (default, "number"), origin := none, r := default }] "x" :=
  ⟨_, List.mem_cons_self, default, rfl, rfl⟩

end NS
