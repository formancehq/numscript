/-
  Properties/EndToEnd.lean — theorems of C12, C16, C17, C18, C19 restated from the TEXT of a
  script, and C15's well-formed ranges for it: their hypotheses on the tree (`Complete`,
  `ParserInv`, distinct call ranges, well-nested expression ranges) are discharged by the parser
  model's theorems, so the only premise left is "the (model) parser accepts the text" — which the
  correspondence run ties to "parser.Parse reports no error".
-/
import Properties.C12
import Properties.C16
import Properties.C17
import Properties.C18
import Properties.C19
import Properties.C15lex
import Properties.C15tree
import Properties.C15ranges
import Proofs.EndToEndLemmas

namespace NS

theorem parseProgram_tokens (text : List Char) (p : Program) (h : parseProgram text = some p) :
    ∃ ts, lex text = some ts ∧ TokensSorted ts ∧ parseTokens ts = some p := by
  unfold parseProgram at h
  split at h
  · rename_i ts hl
    split at h
    · exact ⟨ts, hl, lex_sorted text ts hl, h⟩
    · cases h
  · cases h

/-- every range of the tree of an accepted text is well formed: children within parents, siblings in
    text order without overlap (C15) -/
theorem parse_ranges_ok (text : List Char) (p : Program) (h : parseProgram text = some p) : p.RangesOk := by
  obtain ⟨ts, _, hs, hp⟩ := parseProgram_tokens text p h
  exact parseTokens_ranges_ok ts p hs hp

/-- the parser invariants assumed by C16/C17 hold for every accepted text -/
theorem parse_parser_inv (text : List Char) (p : Program) (h : parseProgram text = some p) :
    p.ParserInv ∧ (callRanges p).Nodup := by
  obtain ⟨ts, _, hs, hp⟩ := parseProgram_tokens text p h
  obtain ⟨h1, h2⟩ := parseTokens_call_ranges_nodup ts p hs hp
  exact ⟨⟨parse_shape_ok text p h, h2⟩, h1⟩

/-- C12 from the text: whatever the variables, the store and the flag, running an accepted text never panics -/
theorem text_run_never_panics (text : List Char) (p : Program) (h : parseProgram text = some p)
    (rawVars : List (String × String)) (store : Store) (flag : Bool) (s : String) :
    RunProgram p rawVars store flag ≠ .panic s :=
  run_never_panics p (parse_complete text p h) rawVars store flag s

/-- C17 from the text: an accepted text whose check reports no error never fails at run time with a
    static-class error -/
theorem text_clean_check_sound (text : List Char) (p : Program) (h : parseProgram text = some p)
    (st : CState) (hchk : checkProgram [] p = .ok st) (hclean : errorCount st.diags = 0)
    (rawVars : List (String × String)) (store : Store) (flag : Bool) :
    (RunProgram p rawVars store flag).noStaticFailure :=
  clean_check_sound p (parse_complete text p h) st hchk hclean (parse_parser_inv text p h).1 rawVars store flag

/-- C16 from the text: the name diagnostics of an accepted text are exactly the specified ones -/
theorem text_names_exact (text : List Char) (p : Program) (h : parseProgram text = some p) (st : CState)
    (hchk : checkProgram [] p = .ok st) :
    unboundDiags st.diags = unboundSpec p ∧ duplicateDiags st.diags = duplicateSpec p ∧
    unusedDiags st.diags = unusedSpec p := by
  have hcr := (parse_parser_inv text p h).2
  have hpd : unboundDiags ([] : List Diag) = [] ∧ duplicateDiags ([] : List Diag) = [] ∧ unusedDiags ([] : List Diag) = [] :=
    ⟨rfl, rfl, rfl⟩
  exact ⟨unbound_exact p [] st hpd hcr hchk, duplicate_exact p [] st hpd hchk, unused_exact p [] st hpd hcr hchk⟩

/-- C18 from the text: the analysis of an accepted text never panics -/
theorem text_check_never_panics (text : List Char) (p : Program) (h : parseProgram text = some p) (s : String) :
    checkProgram [] p ≠ .panic s :=
  check_never_panics p (ee_program_benign p (parse_complete text p h)) [] s

/-- C19 from the text: on every expression of an accepted text, a cursor inside exactly one variable
    token is answered with that variable -/
theorem text_hover_complete (text : List Char) (p : Program) (h : parseProgram text = some p)
    (e : Expr) (he : e ∈ p.exprs) (pos : Pos) (r : Range) (n : String)
    (hmem : (r, n) ∈ usesE e) (hin : r.contains pos = true)
    (huniq : ∀ o ∈ usesE e, o.1.contains pos = true → o = (r, n)) :
    hoverOnExpression e pos = .ok (some (.variable r n)) := by
  obtain ⟨ts, _, hs, hp⟩ := parseProgram_tokens text p h
  have hc : e.Complete := ee_program_exprs p (parse_complete text p h) e he
  exact hover_expr_complete e (ee_ne_monetaryNil hc) (parseTokens_exprs_nested ts p hs hp e he) pos r n
    hmem hin huniq (fun s => ee_hover_ne_panic e hc pos s)

end NS
