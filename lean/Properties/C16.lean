/-
  Properties/C16.lean — the checker is exact about variable names: every use of
  an undeclared (or not yet declared) variable, every repeated declaration and
  every declared-but-never-used variable is reported exactly once, at the token
  concerned, and no other variable is reported.  The expected lists are defined
  in Spec/Names.lean by a plain traversal that does not mention the checker;
  a branch of the checker that forgets to visit a sub-expression falsifies
  these theorems.

  `hcr : (callRanges prog).Nodup` — distinct calls have distinct caller ranges.  The model
  keys the call-resolution table `fnRes` by caller range (the Go code keys it by the call
  node), so for an arbitrary `Program` value that repeats a caller range a stale entry of an
  earlier builtin call would decide which arguments of a later unknown call are visited.
  Parsed programs satisfy it (ranges of distinct tokens differ).  `duplicate_exact` does not
  need it.
-/
import Spec.Names
import Model.Nav
import Proofs.NamesLemmas

namespace NS

/-- unbound-variable diagnostics = uses not declared before, in traversal order, each once, with
    the range of the variable token (parse diagnostics `pd` carry none of the three kinds) -/
theorem unbound_exact (prog : Program) (pd : List Diag) (st : CState)
    (hpd : unboundDiags pd = [] ∧ duplicateDiags pd = [] ∧ unusedDiags pd = [])
    (hcr : (callRanges prog).Nodup)
    (h : checkProgram pd prog = .ok st) : unboundDiags st.diags = unboundSpec prog := by
  obtain ⟨st1, st2, us, hsteps, f, hu, hd, _⟩ := nm_checkProgram True (fun _ => hcr) h
  cases hu trivial
  have h1 : unboundDiags st1.diags = unboundDiags pd ++ _ := hsteps.unbound trivial
  have h2 : unboundDiags st2.diags = unboundDiags st1.diags ++ _ := f.unbound
  rw [hd.1, h2, h1, hpd.1, unboundSpec, List.nil_append]
  congr 1
  apply List.filter_congr
  intro o _
  rw [hsteps.names o.2]
  rfl

/-- duplicate-declaration diagnostics = declarations whose name was declared earlier -/
theorem duplicate_exact (prog : Program) (pd : List Diag) (st : CState)
    (hpd : unboundDiags pd = [] ∧ duplicateDiags pd = [] ∧ unusedDiags pd = [])
    (h : checkProgram pd prog = .ok st) : duplicateDiags st.diags = duplicateSpec prog := by
  obtain ⟨st1, st2, us, hsteps, f, _, hd, _⟩ := nm_checkProgram False (fun hf => hf.elim) h
  have h1 : duplicateDiags st1.diags = duplicateDiags pd ++ _ := hsteps.dup
  have h2 : duplicateDiags st2.diags = duplicateDiags st1.diags := f.dup
  rw [hd.2.1, h2, h1, hpd.2.1, List.nil_append]
  rfl

/-- unused-variable diagnostics = first declarations never used afterwards.  (The Go code ranges
    over a map here, so only the *set* is specified; the model lists them in declaration order.) -/
theorem unused_exact (prog : Program) (pd : List Diag) (st : CState)
    (hpd : unboundDiags pd = [] ∧ duplicateDiags pd = [] ∧ unusedDiags pd = [])
    (hcr : (callRanges prog).Nodup)
    (h : checkProgram pd prog = .ok st) : unusedDiags st.diags = unusedSpec prog := by
  obtain ⟨st1, st2, us, hsteps, f, hu, hd, _⟩ := nm_checkProgram True (fun _ => hcr) h
  cases hu trivial
  have h1 : unusedDiags st1.diags = unusedDiags pd := hsteps.unusedD
  have h2 : unusedDiags st2.diags = unusedDiags st1.diags := f.unusedD
  have h4 : (st1.unused.filter (nm_nu (usesStmts prog.stmts))).map (fun p => (p.2, p.1)) = _ :=
    hsteps.unused trivial (usesStmts prog.stmts)
  have h5 : st2.unused = st1.unused.filter (nm_nu (usesStmts prog.stmts)) := f.unused
  rw [hd.2.2, h2, h1, hpd.2.2, h5, h4, unusedSpec, nm_unusedFrom_eq prog prog.vars 0 [] rfl]
  rfl

/-- every variable use in a statement, in a position the language gives a meaning to, whose name
    the program declares is resolved to a declaration of that name -/
theorem resolution_exact (prog : Program) (pd : List Diag) (st : CState)
    (hcr : (callRanges prog).Nodup)
    (h : checkProgram pd prog = .ok st) (r : Range) (n : String)
    (hu : (r, n) ∈ usesStmts prog.stmts) (hd : (declNames prog.vars).contains n = true) :
    ∃ d, resolveVar st r n = some d ∧ declName d = some n := by
  obtain ⟨st1, st2, us, hsteps, f, hus, _, hv⟩ := nm_checkProgram True (fun _ => hcr) h
  cases hus trivial
  obtain ⟨i1, i2⟩ := hsteps.inv (fun _ hq => nomatch hq) (fun _ hp => nomatch hp)
  obtain ⟨d0, hd0⟩ := f.resNew (r, n) hu (by rw [hsteps.names n, hd]; simp)
  unfold resolveVar
  rw [hv]
  cases hf : st2.varRes.find? (fun p => p.1 == (r, n)) with
  | none => exact absurd (by simp) (List.find?_eq_none.1 hf _ hd0)
  | some p =>
      have hk : p.1 = (r, n) := by simpa using List.find?_some hf
      have := i1 _ (f.resSound i2 p (List.mem_of_find?_eq_some hf))
      rw [hk] at this
      exact ⟨p.2, rfl, this⟩

end NS
