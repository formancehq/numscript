/-
  Properties/State.lean — the packages keep no process-wide mutable state.  `packageStateTable` (Model/Tables.lean) is
  regenerated from the source on every run: every package-level variable of the hand-written packages with the kind
  of value it holds.  A map or slice that the code of the repository only ever reads (indexing, ranging, `len`,
  membership tests — decided by the extractor from every use, in every package) is listed as a `table`; one that is
  assigned, appended to, deleted from, sliced, handed to an unknown function, returned or stored is a `map` / `slice`.
  Variables that can hold state shared by all calls in the process are those whose kind is in `statefulKinds`:
  written maps and slices, pointers, sync.Pool / sync.Map / mutexes, structs.  The repository has none (cobra's
  command objects carry the kind `cobra`, whatever their names: configuration, not state).  A cache, memo, pool or
  shared number added at package level, or a write to one of the tables, changes the table, and these theorems
  fail; a new read-only dispatch table does not.
-/
import Model.Tables

namespace NS

def statefulKinds : List String := ["map", "slice", "pointer", "sync", "struct", "other"]

/-- the stateful package-level variables that are accepted: none -/
def knownPackageState : List (String × String) := []

def statefulIn (pkgs : List String) : List (String × String) :=
  (packageStateTable.filter (fun e => pkgs.contains e.1 && statefulKinds.contains e.2.2)).map (fun e => (e.1, e.2.1))

/-- the interpreter, its helpers and the public API package hold no state between runs -/
theorem interpreter_keeps_no_state : statefulIn ["internal/interpreter", "internal/utils", "."] = [] := by decide

/-- the parser package holds no state between parses -/
theorem parser_keeps_no_state : statefulIn ["internal/parser"] = [] := by decide

/-- the checker's package-level values are tables that no code of the repository writes -/
theorem analysis_state_is_its_tables : statefulIn ["internal/analysis"] = [] := by decide

/-- the language server keeps its documents in the `State` value handed to `Handle`, nothing at package level -/
theorem lsp_keeps_no_package_state : statefulIn ["internal/lsp"] = [] := by decide

/-- whole repository: every stateful package-level variable is a known one -/
theorem package_state_known :
    ∀ e ∈ packageStateTable, statefulKinds.contains e.2.2 = true → (e.1, e.2.1) ∈ knownPackageState := by decide

end NS
