/-
  Properties/C20report.lean — `numscript check FILE` prints every diagnostic the library computed, once,
  with its position, in position order, and its exit status says whether one of them is an error.
-/
import Model.CliReport

namespace NS

theorem insertDiag_perm (d : RDiag) (l : List RDiag) : (insertDiag d l).Perm (d :: l) := by
  induction l with
  | nil => exact List.Perm.refl _
  | cons x xs ih =>
    rw [insertDiag]
    split
    · exact (List.Perm.cons x ih).trans (List.Perm.swap d x xs)
    · exact List.Perm.refl _

/-- sorting neither loses nor duplicates a diagnostic -/
theorem sortDiags_perm (ds : List RDiag) : (sortDiags ds).Perm ds := by
  induction ds with
  | nil => exact List.Perm.refl _
  | cons d ds ih => exact (insertDiag_perm d (sortDiags ds)).trans (List.Perm.cons d ih)

theorem startLe_total (a b : RDiag) : startLe a b = true ∨ startLe b a = true := by
  simp only [startLe, Bool.or_eq_true, Bool.and_eq_true, decide_eq_true_eq, beq_iff_eq]
  omega

theorem insertDiag_sorted (d : RDiag) (l : List RDiag) (h : SortedByStart l) : SortedByStart (insertDiag d l) := by
  induction l with
  | nil => trivial
  | cons x xs ih =>
    rw [insertDiag]
    split
    · next hx =>
      -- `d` goes somewhere behind `x`; what follows `x` is then `d` or the old successor of `x`
      cases xs with
      | nil => exact ⟨hx, trivial⟩
      | cons y ys =>
        have ih' := ih h.2
        rw [insertDiag] at ih' ⊢
        by_cases hy : startLe y d = true
        · rw [if_pos hy] at ih' ⊢
          exact ⟨h.1, ih'⟩
        · rw [if_neg hy] at ih' ⊢
          exact ⟨hx, ih'⟩
    · next hx => exact ⟨(startLe_total x d).resolve_left hx, h⟩

/-- the printing order is by start position -/
theorem sortDiags_sorted (ds : List RDiag) : SortedByStart (sortDiags ds) := by
  induction ds with
  | nil => trivial
  | cons d ds ih => exact insertDiag_sorted d _ ih

theorem errorsOf_ne_zero_iff (ds : List RDiag) : errorsOf ds ≠ 0 ↔ ∃ d ∈ ds, d.sev = 1 := by
  simp [errorsOf, List.filter_eq_nil_iff]

/-- exit status non-zero exactly when a diagnostic has error severity, whatever the printing order -/
theorem report_exit_iff (path : String) (ds : List RDiag) (out : String) (code : Nat)
    (h : checkReport path ds = some (out, code)) : code ≠ 0 ↔ ∃ d ∈ ds, d.sev = 1 := by
  rw [checkReport, Option.map_eq_some_iff] at h
  obtain ⟨body, -, h⟩ := h
  rw [← (Prod.mk.inj h).2, ← errorsOf_ne_zero_iff, reportTail]
  split <;> simp [*]

/-- the exit status does not depend on the order in which the diagnostics are printed -/
theorem report_exit_sorted (path : String) (ds : List RDiag) (out : String) (code : Nat)
    (h : checkReport path (sortDiags ds) = some (out, code)) : code ≠ 0 ↔ ∃ d ∈ ds, d.sev = 1 := by
  rw [report_exit_iff path _ out code h]
  simp only [(sortDiags_perm ds).mem_iff]

theorem diagBlock_isSome (path : String) (d : RDiag) (h : 1 ≤ d.sev ∧ d.sev ≤ 4) :
    (diagBlock path d).isSome := by
  have : d.sev = 1 ∨ d.sev = 2 ∨ d.sev = 3 ∨ d.sev = 4 := by omega
  rw [diagBlock, Option.isSome_map]
  rcases this with e | e | e | e <;> rw [e] <;> rfl

theorem diagBlocks_some (path : String) (ds : List RDiag) (first : Bool)
    (h : ∀ d ∈ ds, 1 ≤ d.sev ∧ d.sev ≤ 4) : (diagBlocks path ds first).isSome := by
  induction ds generalizing first with
  | nil => rfl
  | cons d ds ih =>
    rw [List.forall_mem_cons] at h
    obtain ⟨b, eb⟩ := Option.isSome_iff_exists.mp (diagBlock_isSome path d h.1)
    obtain ⟨r, er⟩ := Option.isSome_iff_exists.mp (ih false h.2)
    simp [diagBlocks, eb, er]

/-- the report is produced (no panic) for the four severities the library defines -/
theorem report_total (path : String) (ds : List RDiag) (h : ∀ d ∈ ds, 1 ≤ d.sev ∧ d.sev ≤ 4) :
    (checkReport path ds).isSome := by
  rw [checkReport, Option.isSome_map]
  exact diagBlocks_some path ds true h

theorem diagBlocks_lists (path : String) (l : List RDiag) (first : Bool) (body : String)
    (h : diagBlocks path l first = some body) :
    ∀ d ∈ l, ∃ b pre post, diagBlock path d = some b ∧ body = pre ++ b ++ post := by
  induction l generalizing first body with
  | nil => nofun
  | cons x xs ih =>
    rw [diagBlocks] at h
    split at h <;> cases h
    next bx rest hx hr =>
    intro d hd
    rcases List.mem_cons.mp hd with rfl | hd
    · exact ⟨bx, _, rest, hx, rfl⟩
    · obtain ⟨b, pre, post, h1, rfl⟩ := ih false rest hr d hd
      exact ⟨b, (if first then "" else "\n\n") ++ bx ++ pre, post, h1, by simp only [String.append_assoc]⟩

/-- every diagnostic is printed, with its position, severity and message: its block
    `FILE:line:char - severity⏎message⏎` occurs in the output -/
theorem report_lists_every_diagnostic (path : String) (ds : List RDiag) (out : String) (code : Nat)
    (h : checkReport path ds = some (out, code)) :
    ∀ d ∈ ds, ∃ b pre post, diagBlock path d = some b ∧ out = pre ++ b ++ post := by
  rw [checkReport, Option.map_eq_some_iff] at h
  obtain ⟨body, hb, h⟩ := h
  intro d hd
  obtain ⟨b, pre, post, h1, rfl⟩ := diagBlocks_lists path ds true body hb d hd
  exact ⟨b, pre, post ++ (reportTail ds).1, h1, by rw [← (Prod.mk.inj h).1, String.append_assoc]⟩

/-- non-vacuity (tests) -/
example : checkReport "f.num" (sortDiags [⟨2,0,1,"bad"⟩, ⟨1,3,2,"meh"⟩]) =
    some ("f.num:1:3 - \x1b[33mWarning\x1b[0m\nmeh\n\n\nf.num:2:0 - \x1b[31mError\x1b[0m\nbad\n\n\n\x1b[31mFound 1 error\x1b[0m\n", 1) := by
  decide
example : checkReport "f.num" [] = some ("No errors found ✅\n", 0) := by decide

end NS
