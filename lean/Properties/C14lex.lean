/-
  Properties/C14lex.lean — where parse errors can be.  The lexer with ANTLR's error recovery
  (Model/LexAll.lean) is total; each of its errors quotes at least one character and is reported inside the text
  (`PosInText`: on an existing line, at a column up to and including the end of that line); every token it
  produces, and the EOF token, starts inside the text or at its end — and those token starts are the only places
  where the parser's listener is told of a syntax error (the correspondence checked on every run,
  vlib/lex_model.py), so the range `SyntaxError` computes starts inside the text or at its end.
-/
import Model.Show
import Proofs.LexAllLemmas

namespace NS

/-- on a text without lexer errors the recovering lexer is the plain one -/
theorem lexAll_agrees_with_lex (cs : List Char) (ts : List Tok) :
    lex cs = some ts ↔ lexAll cs = (ts, []) := by
  unfold lex lexAll
  rw [la_loop_eq _ cs 0 0 (Nat.lt_succ_self _)]
  obtain ⟨r1, r2⟩ := lexAllLoop (cs.length + 1) cs 0 0
  cases r2 <;> simp

theorem lexAll_errors_in_text (cs : List Char) :
    ∀ e ∈ (lexAll cs).2, PosInText cs ⟨e.line, e.col⟩ ∧ e.text ≠ [] :=
  (la_loop_inv cs (cs.length + 1) [] cs 0 0 rfl rfl).2

/-- every token starts and ends inside the text (on one line) -/
theorem lexAll_tokens_in_text (cs : List Char) :
    ∀ t ∈ (lexAll cs).1, PosInText cs ⟨t.line, t.col⟩ ∧ PosInText cs ⟨t.line, t.col + t.text.length⟩ ∧ t.text ≠ [] :=
  (la_loop_inv cs (cs.length + 1) [] cs 0 0 rfl rfl).1

/-- the EOF token sits at the end of the text -/
theorem eofPos_in_text (cs : List Char) : PosInText cs (eofPos cs) := by
  have := la_prefix_in_text cs []
  simpa [eofPos] using this

/-- the range attached to a syntax error on a token (1-based line as ANTLR reports it) starts inside the text, and
    does not end before it starts -/
theorem syntax_error_on_token_in_text (cs : List Char) (t : Tok) (h : t ∈ (lexAll cs).1) :
    PosInText cs (syntaxErrorRange (t.line + 1) t.col t.text.length).s ∧
    (syntaxErrorRange (t.line + 1) t.col t.text.length).s.line = (syntaxErrorRange (t.line + 1) t.col t.text.length).e.line ∧
    (syntaxErrorRange (t.line + 1) t.col t.text.length).s.char ≤ (syntaxErrorRange (t.line + 1) t.col t.text.length).e.char := by
  have h3 := lexAll_tokens_in_text cs t h
  have hne : t.text.length ≠ 0 := by
    intro e; exact h3.2.2 (List.length_eq_zero_iff.mp e)
  refine ⟨?_, rfl, ?_⟩
  · simpa [syntaxErrorRange] using h3.1
  · simp only [syntaxErrorRange]; omega

/-- the same at end of input, whatever length is attached (ANTLR's `<EOF>` token has a text of 5 characters) -/
theorem syntax_error_at_eof_in_text (cs : List Char) (len : Nat) :
    PosInText cs (syntaxErrorRange ((eofPos cs).line + 1) (eofPos cs).char len).s := by
  simpa [syntaxErrorRange] using eofPos_in_text cs

/-- the range attached to a lexer error (length 1) starts inside the text and ends where it starts -/
theorem lexer_error_range_in_text (cs : List Char) (e : LexErr) (h : e ∈ (lexAll cs).2) :
    PosInText cs (syntaxErrorRange (e.line + 1) e.col 1).s ∧
    (syntaxErrorRange (e.line + 1) e.col 1).s = (syntaxErrorRange (e.line + 1) e.col 1).e := by
  refine ⟨by simpa [syntaxErrorRange] using (lexAll_errors_in_text cs e h).1, ?_⟩
  simp [syntaxErrorRange]

/-! non-vacuity (tests): an unterminated string swallows the rest of its line, `$` and `@` swallow one more character -/
example : lexAll "send \"abc\n$ x @! é #".toList =
    ([⟨.kwSend, "send".toList, 0, 0⟩, ⟨.ident, "x".toList, 1, 2⟩],
     [⟨0, 5, "\"abc\n".toList⟩, ⟨1, 0, "$ ".toList⟩, ⟨1, 4, "@!".toList⟩, ⟨1, 7, "é".toList⟩, ⟨1, 9, "#".toList⟩]) := by
  decide
example : eofPos "a\nbc".toList = ⟨1, 2⟩ := by decide

end NS
