/-
  Properties/DrawBounds.lean — what a draw can take from an account
  (the per-statement facts behind C01, C02 and C03), proved about the
  reference draw of Spec/Draw.lean.
-/
import Proofs.DrawBoundLemmas

namespace NS

theorem pulled_append (l1 l2 : Pulls) (a : String) : pulled (l1 ++ l2) a = pulled l1 a + pulled l2 a :=
  pulled_append_eq l1 l2 a

theorem maxGrant_nonneg (g : List Int) : 0 ≤ maxGrant g :=
  zero_le_maxGrant g

mutual
  /-- all literal / variable portions of a resolved source are non-negative -/
  def PortionsNonnegS : RSource → Prop
    | .acct _ _ => True
    | .unb _ => True
    | .capped _ s => PortionsNonnegS s
    | .inorder l => PortionsNonnegSs l
    | .allot qs subs => (∀ q, some q ∈ qs → 0 ≤ q) ∧ PortionsNonnegSs subs
  def PortionsNonnegSs : List RSource → Prop
    | [] => True
    | s :: ss => PortionsNonnegS s ∧ PortionsNonnegSs ss
end

mutual
private theorem draw_inv (asset : String) : ∀ (r : RSource) (av : Avail) (need : Int)
    (l : Pulls), 0 ≤ need → PortionsNonnegS r → draw asset r av need = .ok l →
    (∀ p ∈ l, 0 ≤ p.2) ∧ sumPulls l ≤ need
  | .acct a od, av, need, l, hn, _, h | .unb a, av, need, l, hn, _, h => by
      cases h
      simp only [List.mem_singleton, forall_eq, sumPulls_single]
      omega
  | .capped cap s, av, need, l, hn, hp, h => by
      have i := draw_inv asset s av (max 0 (min need cap)) l (by omega) hp h
      exact ⟨i.1, by omega⟩
  | .inorder ss, av, need, l, hn, hp, h => drawList_inv asset ss av need l hn hp h
  | .allot qs subs, av, need, l, hn, hp, h => by
      obtain ⟨parts, hparts, h⟩ := draw_allot_ok h
      have i := drawAllot_inv asset subs parts av l (allotOf_nonneg _ _ _ hn hp.1 hparts) hp.2 h
      exact ⟨i.1, allotOf_sum _ _ _ hparts ▸ i.2⟩

private theorem drawList_inv (asset : String) : ∀ (rs : List RSource) (av : Avail) (need : Int)
    (l : Pulls), 0 ≤ need → PortionsNonnegSs rs → drawList asset rs av need = .ok l →
    (∀ p ∈ l, 0 ≤ p.2) ∧ sumPulls l ≤ need
  | [], av, need, l, hn, _, h => by
      cases h
      exact ⟨by simp, hn⟩
  | s :: ss, av, need, l, hn, hp, h => by
      obtain ⟨l1, l2, h1, h2, rfl⟩ := drawList_cons_ok h
      have i1 := draw_inv asset s av need l1 hn hp.1 h1
      have i2 := drawList_inv asset ss _ _ l2 (by omega) hp.2 h2
      exact ⟨List.forall_mem_append.mpr ⟨i1.1, i2.1⟩, by rw [sumPulls_append]; omega⟩

private theorem drawAllot_inv (asset : String) : ∀ (rs : List RSource) (parts : List Int)
    (av : Avail) (l : Pulls), (∀ p ∈ parts, 0 ≤ p) → PortionsNonnegSs rs →
    drawAllot asset rs parts av = .ok l → (∀ p ∈ l, 0 ≤ p.2) ∧ sumPulls l ≤ parts.sum
  | [], parts, av, l, hparts, _, h => by
      cases h
      exact ⟨by simp, int_list_sum_nonneg parts hparts⟩
  | _ :: _, [], av, l, _, _, h => by cases h
  | s :: ss, p :: ps, av, l, hparts, hp, h => by
      obtain ⟨l1, l2, h1, -, h2, rfl⟩ := drawAllot_cons_ok h
      obtain ⟨hp0, hps⟩ := List.forall_mem_cons.mp hparts
      have i1 := draw_inv asset s av p l1 hp0 hp.1 h1
      have i2 := drawAllot_inv asset ss ps _ l2 hps hp.2 h2
      exact ⟨List.forall_mem_append.mpr ⟨i1.1, i2.1⟩,
        by rw [sumPulls_append, List.sum_cons]; omega⟩
end

/-- the arithmetic step of the overdraft bound: a first draw takes `p1`, a later draw `p2`
    out of what is left -/
theorem pulled_bound_step (ava g1 g2 p1 p2 : Int)
    (h1 : p1 ≤ max 0 (ava + g1)) (h2 : p2 ≤ max 0 (ava - p1 + g2)) :
    p1 + p2 ≤ max 0 (ava + max g1 g2) := by
  omega

mutual
/-- The overdraft bound of one statement: an account that is not an unbounded source gives in
    total at most what it has plus the largest overdraft granted to it in this source (never a
    negative amount) — even when it is named several times. -/
theorem draw_pulled_bound (asset : String) (r : RSource) (av : Avail) (need : Int) (l : Pulls) (a : String)
    (hn : 0 ≤ need) (hp : PortionsNonnegS r) (hu : unbIn a r = false) (h : draw asset r av need = .ok l) :
    pulled l a ≤ max 0 (av a + maxGrant (grantsOf a r)) := by
  match r with
  | .acct b od =>
      cases h
      by_cases hb : b = a <;> simp only [pulled, grantsOf, hb, if_true, if_false, maxGrant] <;> omega
  | .unb b =>
      have hb : ¬ b = a := by simpa [unbIn] using hu
      cases h
      simp only [pulled, hb, if_false, grantsOf, maxGrant]
      omega
  | .capped cap s => exact draw_pulled_bound asset s av _ l a (by omega) hp hu h
  | .inorder ss => exact drawList_bound asset a ss av need l hn hp hu h
  | .allot qs subs =>
      obtain ⟨parts, hparts, h⟩ := draw_allot_ok h
      exact drawAllot_bound asset a subs parts av l (allotOf_nonneg _ _ _ hn hp.1 hparts) hp.2 hu h

private theorem drawList_bound (asset : String) (a : String) : ∀ (rs : List RSource) (av : Avail)
    (need : Int) (l : Pulls), 0 ≤ need → PortionsNonnegSs rs → unbInList a rs = false →
    drawList asset rs av need = .ok l → pulled l a ≤ max 0 (av a + maxGrant (grantsOfList a rs))
  | [], av, need, l, _, _, _, h => by
      cases h
      simp only [pulled]
      omega
  | s :: ss, av, need, l, hn, hp, hu, h => by
      obtain ⟨hu1, hu2⟩ := unbInList_cons_false hu
      obtain ⟨l1, l2, h1, h2, rfl⟩ := drawList_cons_ok h
      have i1 := draw_inv asset s av need l1 hn hp.1 h1
      have b1 := draw_pulled_bound asset s av need l1 a hn hp.1 hu1 h1
      have b2 := drawList_bound asset a ss _ _ l2 (by omega) hp.2 hu2 h2
      rw [pulled_append, grantsOfList, maxGrant_append]
      exact pulled_bound_step _ _ _ _ _ b1 b2

private theorem drawAllot_bound (asset : String) (a : String) : ∀ (rs : List RSource)
    (parts : List Int) (av : Avail) (l : Pulls), (∀ p ∈ parts, 0 ≤ p) → PortionsNonnegSs rs →
    unbInList a rs = false → drawAllot asset rs parts av = .ok l →
    pulled l a ≤ max 0 (av a + maxGrant (grantsOfList a rs))
  | [], parts, av, l, _, _, _, h => by
      cases h
      simp only [pulled]
      omega
  | _ :: _, [], av, l, _, _, _, h => by cases h
  | s :: ss, p :: ps, av, l, hparts, hp, hu, h => by
      obtain ⟨hu1, hu2⟩ := unbInList_cons_false hu
      obtain ⟨hp0, hps⟩ := List.forall_mem_cons.mp hparts
      obtain ⟨l1, l2, h1, -, h2, rfl⟩ := drawAllot_cons_ok h
      have b1 := draw_pulled_bound asset s av p l1 a hp0 hp.1 hu1 h1
      have b2 := drawAllot_bound asset a ss ps _ l2 hps hp.2 hu2 h2
      rw [pulled_append, grantsOfList, maxGrant_append]
      exact pulled_bound_step _ _ _ _ _ b1 b2
end

theorem grantsOfList_cons_nil {a : String} {s : RSource} {ss : List RSource}
    (h : grantsOfList a (s :: ss) = []) : grantsOf a s = [] ∧ grantsOfList a ss = [] := by
  rw [grantsOfList] at h
  exact List.append_eq_nil_iff.mp h

mutual
/-- only accounts named in the source are pulled from -/
theorem draw_pulled_zero_of_absent (asset : String) (r : RSource) (av : Avail) (need : Int) (l : Pulls)
    (a : String) (hg : grantsOf a r = []) (hu : unbIn a r = false) (h : draw asset r av need = .ok l) :
    pulled l a = 0 := by
  match r with
  | .acct b od =>
      have hb : ¬ b = a := by
        rintro rfl
        simp [grantsOf] at hg
      cases h
      simp [pulled, hb]
  | .unb b =>
      have hb : ¬ b = a := by simpa [unbIn] using hu
      cases h
      simp [pulled, hb]
  | .capped cap s => exact draw_pulled_zero_of_absent asset s av _ l a hg hu h
  | .inorder ss => exact drawList_absent asset a ss av need l hg hu h
  | .allot qs subs =>
      obtain ⟨parts, -, h⟩ := draw_allot_ok h
      exact drawAllot_absent asset a subs parts av l hg hu h

theorem drawList_absent (asset : String) (a : String) : ∀ (rs : List RSource) (av : Avail)
    (need : Int) (l : Pulls), grantsOfList a rs = [] → unbInList a rs = false →
    drawList asset rs av need = .ok l → pulled l a = 0
  | [], av, need, l, _, _, h => by
      cases h
      rfl
  | s :: ss, av, need, l, hg, hu, h => by
      obtain ⟨hg1, hg2⟩ := grantsOfList_cons_nil hg
      obtain ⟨hu1, hu2⟩ := unbInList_cons_false hu
      obtain ⟨l1, l2, h1, h2, rfl⟩ := drawList_cons_ok h
      rw [pulled_append, draw_pulled_zero_of_absent asset s av need l1 a hg1 hu1 h1,
        drawList_absent asset a ss _ _ l2 hg2 hu2 h2]
      rfl

theorem drawAllot_absent (asset : String) (a : String) : ∀ (rs : List RSource) (parts : List Int)
    (av : Avail) (l : Pulls), grantsOfList a rs = [] → unbInList a rs = false →
    drawAllot asset rs parts av = .ok l → pulled l a = 0
  | [], parts, av, l, _, _, h => by
      cases h
      rfl
  | _ :: _, [], av, l, _, _, h => by cases h
  | s :: ss, p :: ps, av, l, hg, hu, h => by
      obtain ⟨hg1, hg2⟩ := grantsOfList_cons_nil hg
      obtain ⟨hu1, hu2⟩ := unbInList_cons_false hu
      obtain ⟨l1, l2, h1, -, h2, rfl⟩ := drawAllot_cons_ok h
      rw [pulled_append, draw_pulled_zero_of_absent asset s av p l1 a hg1 hu1 h1,
        drawAllot_absent asset a ss ps _ l2 hg2 hu2 h2]
      rfl
end

/-- every pull of a draw of a non-negative amount is non-negative -/
theorem draw_pulls_nonneg (asset : String) (r : RSource) (av : Avail) (need : Int) (l : Pulls)
    (hn : 0 ≤ need) (hp : PortionsNonnegS r) (h : draw asset r av need = .ok l) : ∀ p ∈ l, 0 ≤ p.2 := by
  exact (draw_inv asset r av need l hn hp h).1

/-! ### "send all": a draw of a large enough amount (`drawAll_eq_draw`) -/

theorem drawAll_pulls_nonneg (asset : String) (r : RSource) (av : Avail) (l : Pulls)
    (hp : PortionsNonnegS r) (h : drawAll asset r av = .ok l) : ∀ p ∈ l, 0 ≤ p.2 := by
  obtain ⟨b, h0, hb⟩ := drawAll_eq_draw asset r av l h
  exact draw_pulls_nonneg asset r av b l h0 hp (hb b le_rfl)

private theorem drawAllList_inv (asset : String) : ∀ (rs : List RSource) (av : Avail) (l : Pulls),
    PortionsNonnegSs rs → drawAllList asset rs av = .ok l → ∀ p ∈ l, 0 ≤ p.2 := by
  intro rs av l hp h
  obtain ⟨b, h0, hb⟩ := drawAllList_eq_drawList asset rs av l h
  exact (drawList_inv asset rs av b l h0 hp (hb b le_rfl)).1

theorem drawAll_pulled_bound (asset : String) (r : RSource) (av : Avail) (l : Pulls) (a : String)
    (hp : PortionsNonnegS r) (hu : unbIn a r = false) (h : drawAll asset r av = .ok l) :
    pulled l a ≤ max 0 (av a + maxGrant (grantsOf a r)) := by
  obtain ⟨b, h0, hb⟩ := drawAll_eq_draw asset r av l h
  exact draw_pulled_bound asset r av b l a h0 hp hu (hb b le_rfl)

private theorem drawAllList_bound (asset : String) (a : String) : ∀ (rs : List RSource)
    (av : Avail) (l : Pulls), PortionsNonnegSs rs → unbInList a rs = false →
    drawAllList asset rs av = .ok l → pulled l a ≤ max 0 (av a + maxGrant (grantsOfList a rs)) := by
  intro rs av l hp hu h
  obtain ⟨b, h0, hb⟩ := drawAllList_eq_drawList asset rs av l h
  exact drawList_bound asset a rs av b l h0 hp hu (hb b le_rfl)

theorem drawAll_pulled_zero_of_absent (asset : String) (r : RSource) (av : Avail) (l : Pulls)
    (a : String) (hg : grantsOf a r = []) (hu : unbIn a r = false) (h : drawAll asset r av = .ok l) :
    pulled l a = 0 := by
  obtain ⟨b, -, hb⟩ := drawAll_eq_draw asset r av l h
  exact draw_pulled_zero_of_absent asset r av b l a hg hu (hb b le_rfl)

theorem drawAllList_absent (asset : String) (a : String) : ∀ (rs : List RSource) (av : Avail)
    (l : Pulls), grantsOfList a rs = [] → unbInList a rs = false →
    drawAllList asset rs av = .ok l → pulled l a = 0 := by
  intro rs av l hg hu h
  obtain ⟨b, -, hb⟩ := drawAllList_eq_drawList asset rs av l h
  exact drawList_absent asset a rs av b l hg hu (hb b le_rfl)

/-! non-vacuity (test) -/
example : draw "USD" (.inorder [.acct "a" 0, .acct "a" 5]) (fun _ => 10) 20 = .ok [("a", 10), ("a", 5)] := by
  simp [draw, drawList, availAfter, pulled, sumPulls]

end NS
