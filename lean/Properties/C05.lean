/-
  Properties/C05.lean — destinations are filled in order up to their caps;
  `remaining` gets the rest.  The interpreter's destination functions
  (Model/Dest.lean) refine `distribute` of Spec/Distribute.lean; conservation
  and the clause formulas are proved about `distribute` itself.
-/
import Proofs.DistributeLemmas

namespace NS

mutual
  /-- all literal / variable portions of a resolved destination are non-negative
      (and every allotment node has one target per portion) -/
  def PortionsNonnegD : RDest → Prop
    | .acct _ => True
    | .inorder _ tos rest => PortionsNonnegKs tos ∧ PortionsNonnegK rest
    | .allot qs tos => (∀ q, some q ∈ qs → 0 ≤ q) ∧ qs.length = tos.length ∧ PortionsNonnegKs tos
  def PortionsNonnegK : RKoD → Prop
    | .kept => True
    | .to d => PortionsNonnegD d
  def PortionsNonnegKs : List RKoD → Prop
    | [] => True
    | t :: ts => PortionsNonnegK t ∧ PortionsNonnegKs ts
end

/-- Whenever the destination expression resolves, `receiveFrom` queues exactly the
    distribution (zero amounts are not queued), and fails exactly when it does -/
theorem receive_refines_distribute (env : Env) (dst : Dest) (r : RDest) (n : Int) (rcv : Receivers)
    (hr : resolveD env.vars env.asset dst = .ok r) :
    receiveFrom env dst n rcv =
      (match distribute r n with
       | .ok l => .ok (rcv ++ nonzero l)
       | .err e => .err e
       | .panic s => .panic s) := by
  rw [receiveFrom_refines env dst r n rcv hr]
  cases distribute r n <;> rfl

mutual
/-- conservation: credited plus kept amounts equal the amount sent, and nobody receives a negative amount -/
theorem distribute_conserves (r : RDest) (n : Int) (l : Pulls) (hn : 0 ≤ n) (hp : PortionsNonnegD r)
    (h : distribute r n = .ok l) : sumPulls l = n ∧ ∀ p ∈ l, 0 ≤ p.2 := by
  match r with
  | .acct a =>
      cases h
      simpa using hn
  | .inorder caps tos rest =>
      obtain ⟨left, l1, hcl, h⟩ := distribute_inorder_ok h
      obtain ⟨h0, hs, hnn⟩ := distClauses_cons tos caps n left l1 hn hp.1 hcl
      rcases h with ⟨hl, rfl⟩ | ⟨l2, hk, rfl⟩
      · exact ⟨by omega, hnn⟩
      · obtain ⟨hs2, hnn2⟩ := distKoD_cons rest left l2 h0 hp.2 hk
        exact ⟨by rw [sumPulls_append]; omega, List.forall_mem_append.mpr ⟨hnn, hnn2⟩⟩
  | .allot qs tos =>
      obtain ⟨hq, hlen, hp2⟩ := hp
      obtain ⟨parts, ha, h⟩ := distribute_allot_ok h
      obtain ⟨hs, hnn⟩ := distAllot_cons tos parts l (allotOf_nonneg n qs parts hn hq ha) hp2
        (by rw [allotOf_length n qs parts ha, hlen]) h
      exact ⟨by rw [hs, allotOf_sum n qs parts ha], hnn⟩

private theorem distKoD_cons : (t : RKoD) → (n : Int) → (l : Pulls) → 0 ≤ n → PortionsNonnegK t →
    distKoD t n = .ok l → sumPulls l = n ∧ ∀ p ∈ l, 0 ≤ p.2
  | .kept, n, l, hn, _, h => by
      cases h
      simpa using hn
  | .to d, n, l, hn, hp, h => distribute_conserves d n l hn hp h

private theorem distClauses_cons : (tos : List RKoD) → (caps : List Int) → (left left' : Int) → (l : Pulls) →
    0 ≤ left → PortionsNonnegKs tos → distClauses caps tos left = .ok (left', l) →
    0 ≤ left' ∧ sumPulls l + left' = left ∧ ∀ p ∈ l, 0 ≤ p.2
  | tos, [], left, left', l, hl, _, h => by
      rw [distClauses] at h
      cases h
      simpa using hl
  | [], c :: cs, left, left', l, hl, _, h => by cases h
  | t :: ts, c :: cs, left, left', l, hl, hp, h => by
      rcases distClauses_cons_ok h with ⟨rfl, rfl, rfl⟩ | ⟨-, h⟩ | ⟨l1, l2, hk, hrest, rfl⟩
      · simp
      · exact distClauses_cons ts cs left left' l hl hp.2 h
      · obtain ⟨hs1, hnn1⟩ := distKoD_cons t _ l1 (by omega) hp.1 hk
        obtain ⟨h0, hs2, hnn2⟩ := distClauses_cons ts cs _ left' l2 (by omega) hp.2 hrest
        exact ⟨h0, by rw [sumPulls_append]; omega, List.forall_mem_append.mpr ⟨hnn1, hnn2⟩⟩

private theorem distAllot_cons : (tos : List RKoD) → (parts : List Int) → (l : Pulls) →
    (∀ x ∈ parts, 0 ≤ x) → PortionsNonnegKs tos → parts.length = tos.length →
    distAllot tos parts = .ok l → sumPulls l = parts.sum ∧ ∀ p ∈ l, 0 ≤ p.2
  | [], [], l, _, _, _, h => by
      cases h
      simp
  | [], _ :: _, l, _, _, hlen, h | t :: ts, [], l, _, _, hlen, h => by cases hlen
  | t :: ts, x :: xs, l, hx, hp, hlen, h => by
      obtain ⟨hx0, hxs⟩ := List.forall_mem_cons.mp hx
      obtain ⟨l1, l2, hk, hrest, rfl⟩ := distAllot_cons_ok h
      obtain ⟨hs1, hnn1⟩ := distKoD_cons t x l1 hx0 hp.1 hk
      obtain ⟨hs2, hnn2⟩ := distAllot_cons ts xs l2 hxs hp.2 (by simpa using hlen) hrest
      exact ⟨by rw [sumPulls_append, List.sum_cons]; omega, List.forall_mem_append.mpr ⟨hnn1, hnn2⟩⟩
end

/-- an ordered destination: a first clause with a positive cap receives min(its cap, what is left),
    and the following clauses distribute what is left after it -/
theorem distClauses_step (c : Int) (cs : List Int) (t : RKoD) (ts : List RKoD) (left : Int) (hl : 0 < left)
    (hc : 0 < c) :
    distClauses (c :: cs) (t :: ts) left =
      (match distKoD t (min c left) with
       | .ok l1 =>
          (match distClauses cs ts (left - min c left) with
           | .ok (left', l2) => .ok (left', l1 ++ l2)
           | .err e => .err e
           | .panic s => .panic s)
       | .err e => .err e
       | .panic s => .panic s) := by
  have hm : min (max 0 c) left = min c left := by omega
  have h1 : left ≠ 0 := by omega
  have h2 : min c left ≠ 0 := by omega
  simp only [distClauses, hm, h1, h2, if_false]
  cases distKoD t (min c left) with
  | err e => rfl
  | panic s => rfl
  | ok l1 =>
    simp only
    cases distClauses cs ts (left - min c left) <;> rfl

/-- a clause whose cap is zero or negative receives nothing: a negative cap counts as zero.
    (For `left = 0` the loop stops before looking at the cap, so the statement is about `0 < left`.) -/
theorem distClauses_nonpositive_cap_skipped (c : Int) (cs : List Int) (t : RKoD) (ts : List RKoD) (left : Int)
    (hc : c ≤ 0) (hl : 0 < left) : distClauses (c :: cs) (t :: ts) left = distClauses cs ts left := by
  have h1 : left ≠ 0 := by omega
  have h2 : min (max 0 c) left = 0 := by omega
  simp only [distClauses, h1, h2, if_false, if_true]

/-! For `left = 0` the equation fails when the remaining lists have different lengths (left side:
    `ok (0, [])`, right side: panic); it holds on parallel lists. -/

example : ¬ (distClauses (0 :: [1]) (RKoD.kept :: []) 0 = distClauses [1] [] 0) := by
  simp [distClauses]

theorem distClauses_nonpositive_cap_skipped_parallel (c : Int) (cs : List Int) (t : RKoD) (ts : List RKoD)
    (left : Int) (hc : c ≤ 0) (hl : 0 ≤ left) (hlen : cs.length ≤ ts.length) :
    distClauses (c :: cs) (t :: ts) left = distClauses cs ts left := by
  by_cases h0 : left = 0
  · subst h0
    cases cs <;> cases ts <;> simp [distClauses] at hlen ⊢
  · exact distClauses_nonpositive_cap_skipped c cs t ts left hc (by omega)

/-- the `remaining` clause receives what is left after all caps -/
theorem distribute_inorder_remaining (caps : List Int) (tos : List RKoD) (rest : RKoD) (n left : Int) (l : Pulls)
    (h : distClauses caps tos n = .ok (left, l)) (hl : left ≠ 0) :
    distribute (.inorder caps tos rest) n =
      (match distKoD rest left with
       | .ok l2 => .ok (l ++ l2)
       | .err e => .err e
       | .panic s => .panic s) := by
  simp only [distribute, h, hl, if_false]
  cases distKoD rest left <;> rfl

/-- amounts routed to `kept` go to the pseudo-receiver only: a `kept` target credits nobody else -/
theorem distKoD_kept (n : Int) : distKoD .kept n = .ok [(KEPT_ADDR, n)] := by
  simp only [distKoD]

/-! non-vacuity (test): a negative cap counts as zero -/
example : distribute (.inorder [-5] [.to (.acct "a")] (.to (.acct "b"))) 10 = .ok [("b", 10)] := by
  simp [distribute, distClauses, distKoD]

end NS
