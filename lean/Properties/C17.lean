/-
  Properties/C17.lean — a clean static check means no static-class failure at
  run time (type soundness of Model/Check.lean with respect to Model/Run.lean).
-/
import Proofs.SoundnessLemmas

namespace NS

/-- Expressions: if checking `e` against the required type `τ` adds no error, and the run-time
    environment agrees with the declarations, then evaluating `e` yields a value of type `τ`
    (any value for `any`), or fails with an error outside the static class (e.g. mismatched
    currency) — never a type error, an unbound variable, nor a crash.
    `hdecl`: every declaration carries a valid type.  Without it the statement is false:
    for a declaration without a (valid) type the checker skips `assertHasType` and `EnvAgrees`
    says nothing, e.g. `declared = [("x", {type := none})]`, `vars = []`, `e = $x`: the check is
    clean and evaluation fails with `UnboundVariableErr`.  In a clean complete program it holds
    (a missing type is excluded by completeness, an invalid one is reported as `InvalidType`). -/
theorem checkExpression_sound (st st' : CState) (vars : Vars) (e : Expr) (τ : String)
    (hc : e.Complete) (hchk : checkExpression st e τ = .ok st') (hclean : NoNewErrors st st')
    (henv : EnvAgrees st vars)
    (hdecl : ∀ name d, lookupDecl st name = some d →
      ∃ r t, d.type = some (r, t) ∧ isTypeAllowed t = true) :
    match evalExpr vars e with
    | .ok v => τ = "any" ∨ v.typeName = τ
    | .err err => err.isStaticClass = false
    | .panic _ => False :=
  sd_checkExpression_sound e hc hchk hclean ⟨henv, hdecl⟩

/-- the checker never removes diagnostics: errors only accumulate -/
theorem checkExpression_errors_mono (st st' : CState) (e : Expr) (τ : String)
    (hchk : checkExpression st e τ = .ok st') : errorCount st.diags ≤ errorCount st'.diags :=
  (sd_checkExpression_frame e hchk).mono

/-- the checker does not change the declarations while checking an expression -/
theorem checkExpression_declared (st st' : CState) (e : Expr) (τ : String)
    (hchk : checkExpression st e τ = .ok st') : st'.declared = st.declared :=
  (sd_checkExpression_frame e hchk).declared

/-- Whole scripts: whenever static analysis of a complete script reports no error, executing it —
    with any raw variable values (a value that does not parse at its declared type is a different,
    non-static failure), any store, any flags — never fails with a type error, an unbound variable
    or function, a wrong number of arguments or an unknown type, and never crashes.
    `hshape : prog.ParserInv` (Proofs/ParserInv.lean) collects what the parser guarantees
    besides completeness: (a) every allotment clause is `remaining`, a portion literal or a
    variable (`AllotVal.ShapeOk`) — the checker looks at no other clause, so `{ 3 from @a
    remaining from @b }` built by hand checks clean and fails with a `TypeError`; (b) distinct
    function calls have distinct caller ranges — the model keys `fnCallResolution` by that range,
    so an unknown function placed at the range of an earlier `set_tx_meta(..)` would be taken as
    resolved and fail at run time with `UnboundFunctionErr`. -/
theorem clean_check_sound (prog : Program) (hc : prog.Complete) (st : CState)
    (hchk : checkProgram [] prog = .ok st) (hclean : errorCount st.diags = 0)
    (hshape : prog.ParserInv)
    (rawVars : List (String × String)) (store : Store) (flag : Bool) :
    (RunProgram prog rawVars store flag).noStaticFailure := by
  rw [sd_noStaticFailure_iff]
  refine ⟨np_RunProgram prog hc rawVars store flag, ?_⟩
  obtain ⟨st1, st2, h1, h2, rfl⟩ := sd_checkProgram_cases hchk
  rw [sd_foldl_unused_errorCount] at hclean
  have e1 := sd_checkVarDecls_ext _ h1
  obtain ⟨c1, c2⟩ : NoNewErrors { diags := [] } st1 ∧ NoNewErrors st1 st2 :=
    sd_clean_split e1.diags (sd_checkStatements_ext _ h2).diags (hclean.trans rfl)
  have hnd := hshape.ranges
  unfold Program.fnRanges at hnd
  obtain ⟨k1, k2⟩ := sd_checkVarDecls_sound store flag rawVars (sd_stmtsFnRanges prog.stmts)
    prog.vars _ st1 [] ⟨[], [], 0, []⟩ hc.1 h1 c1
    ⟨fun name d r t h => by simp [lookupDecl] at h, fun name d h => by simp [lookupDecl] at h⟩
    (by intro p hp; cases hp) hnd
  have k3 := fun vars q hv => sd_checkStatements_sound vars prog.stmts st1 st2 hc.2 hshape.shape
    h2 c2 (k2 vars q hv) (sd_fnRes_fresh hnd (by intro p hp; cases hp) e1.fnRes)
    (List.nodup_append.mp hnd).2.1
  unfold RunProgram
  sd_bind k1
  sd_bind ((k3 _ _ ‹_›).2 _)
  split
  · exact sd_ei_err rfl
  · sd_bind ((k3 _ _ ‹_›).1 _)
    exact sd_ei_ok _ _

/-- Whenever static analysis reports nothing at all, execution additionally never fails because
    of the shape of a send-all source — except for an account *variable* whose value is `world`
    (the shape is fine, the value is not). -/
theorem silent_check_no_sendall_shape_error (prog : Program) (hc : prog.Complete) (st : CState)
    (hchk : checkProgram [] prog = .ok st) (hsilent : st.diags = [])
    (rawVars : List (String × String)) (store : Store) (flag : Bool) (e : Err)
    (hrun : RunProgram prog rawVars store flag = .err e) :
    e ≠ .invalidAllotmentInSendAll ∧ (∀ n, e = .invalidUnboundedInSendAll n → n = WORLD) :=
  sd_silent_check prog st hchk hsilent rawVars store flag e hrun

end NS
