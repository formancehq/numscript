/-
  Properties/C07.lean — funds pair first-come-first-served; kept funds stay with
  the earliest sources.  `Reconcile` terminates by definition (well-founded
  recursion on the total length of the two lists, Model/Reconcile.lean).
-/
import Proofs.ReconcileTotals

namespace NS

/-- The net flow between every source and every (real) destination equals the in-order,
    unit-by-unit pairing of the draw list with the distribution list; units paired with
    `kept` are withheld from the senders next in line, spanning several senders. -/
theorem reconcile_flow_eq_pairing (asset : String) (ss rs : List (String × Int))
    (hs : ∀ p ∈ ss, 0 < p.2) (hr : ∀ p ∈ rs, 0 < p.2) (s d : String) (hd : d ≠ KEPT_ADDR) :
    flowOf (Reconcile asset ss rs) s d = (unitFlow ss rs s d : Int) := by
  rw [flowOf_eq_rc_sumBy, reconcile_rc_sumBy asset _ ss rs hs hr, unitFlow, ← List.countP_eq_length_filter]
  congr 1
  refine List.countP_congr (fun u _ => ?_)
  have : u.2 = d → u.2 ≠ KEPT_ADDR := fun e => e ▸ hd
  simpa using fun _ => this

/-- kept units are never credited to anyone -/
theorem reconcile_never_credits_kept (asset : String) (ss rs : List (String × Int)) :
    ∀ p ∈ Reconcile asset ss rs, p.destination ≠ KEPT_ADDR :=
  fun p hp => (reconcile_src_dst_asset asset ss rs p hp).2.2.1

theorem reconcile_positive (asset : String) (ss rs : List (String × Int))
    (hs : ∀ p ∈ ss, 0 < p.2) (hr : ∀ p ∈ rs, 0 < p.2) :
    ∀ p ∈ Reconcile asset ss rs, 0 < p.amount := by
  obtain ⟨_, _, _, _, _, h⟩ := reconcileLoop_invariant asset
    (fun ss rs acc => (∀ p ∈ ss, 0 < p.2) ∧ (∀ p ∈ rs, 0 < p.2) ∧ ∀ p ∈ acc, 0 < p.amount)
    (fun ss m rs acc ⟨h1, h2, h3⟩ => ⟨withhold_pos h1 m, (List.forall_mem_cons.1 h2).2, h3⟩)
    (fun sn sm ss rn rm rs acc _ ⟨h1, h2, h3⟩ => by
      rw [List.forall_mem_cons] at h1 h2
      have h0 : 0 < min sm rm := Int.lt_min.2 ⟨h1.1, h2.1⟩
      exact ⟨rc_carry_pos (Int.min_le_left sm rm) h1.2, rc_carry_pos (Int.min_le_right sm rm) h2.2,
        forall_addPosting h3 h0 (fun _ hq => Int.add_pos hq h0)⟩)
    ss rs [] ⟨hs, hr, by simp⟩
  exact fun p hp => h p (List.mem_reverse.1 hp)

/-- postings only name senders as sources and receivers as destinations, in the statement's asset -/
theorem reconcile_names (asset : String) (ss rs : List (String × Int)) :
    ∀ p ∈ Reconcile asset ss rs,
      p.source ∈ ss.map (·.1) ∧ p.destination ∈ rs.map (·.1) ∧ p.asset = asset :=
  fun p hp => have h := reconcile_src_dst_asset asset ss rs p hp; ⟨h.1, h.2.1, h.2.2.2⟩

/-- consecutive postings with the same source and destination are merged -/
theorem reconcile_merges_adjacent (asset : String) (ss rs : List (String × Int)) :
    NoAdjacentSamePair (Reconcile asset ss rs) := by
  obtain ⟨_, _, _, h⟩ := reconcileLoop_invariant asset (fun _ _ acc => NoAdjacentSamePair acc)
    (fun _ _ _ _ h => h) (fun _ _ _ _ _ _ _ _ h => noAdj_addPosting _ _ _ _ h) ss rs [] trivial
  exact noAdj_reverse h

/-- what is debited from a sender never exceeds what was pulled from it
    (kept units are withheld, never debited) -/
theorem reconcile_debits_le_pulled (asset : String) (ss rs : List (String × Int))
    (hs : ∀ p ∈ ss, 0 < p.2) (hr : ∀ p ∈ rs, 0 < p.2) (a : String) :
    debitsOf (Reconcile asset ss rs) a ≤ pulled ss a := by
  rw [debitsOf_eq_rc_sumBy, reconcile_rc_sumBy asset _ ss rs hs hr, ← count_units hs a, Int.ofNat_le]
  exact Nat.le_trans (List.countP_mono_left (by simp)) (countP_zip_fst_le (· == a) _ _)

/-! non-vacuity: a kept amount larger than the first sender's share -/
example : Reconcile "USD" [("a", 3), ("b", 100)] [(KEPT_ADDR, 7), ("c", 3)] =
    [⟨"b", "c", 3, "USD"⟩] := by
  simp [Reconcile, reconcileLoop, withhold, addPosting, KEPT_ADDR]

end NS
