/-
  Properties/C14grammar.lean — the texts the parser model accepts are exactly the written forms of
  trees.  Completeness is `parse_unparse` (Properties/C15roundtrip.lean): every token stream with
  the kinds and texts of a writable tree is accepted, with that tree.  Soundness: when a
  token stream is accepted, the returned tree is writable and the stream is, kind by kind, what
  that tree is written as (up to an empty `vars { }` block, which leaves no trace in the tree, and to the
  two spellings of a portion).
  So "accepted with zero errors" = "is the written form of some tree of the grammar".
-/
import Proofs.GrammarLemmas

namespace NS

/-- an identifier token never carries the text of a keyword (the keyword rule wins the tie) -/
theorem lex_ident_not_keyword (cs : List Char) (ts : List Tok) (h : lex cs = some ts) :
    ∀ t ∈ ts, t.kind = .ident → t.text ∉ keywordTexts := by
  intro t ht hk
  exact lx_ident_not_keyword t (lx_lex_toks cs ts h t ht) hk

/-- keyword and punctuation tokens carry their fixed spelling -/
theorem lex_fixed_text (cs : List Char) (ts : List Tok) (h : lex cs = some ts) :
    ∀ t ∈ ts, ∀ txt, fixedText t.kind = some txt → t.text = txt := by
  intro t ht txt hf
  exact lx_fixed_text t (lx_lex_toks cs ts h t ht) txt hf

/-- a percentage is one of the two spellings of a portion: the tree keeps the value, not the spelling -/
def normKind (k : TK) : TK := if k = .percent then .ratio else k

/-- soundness on token streams -/
theorem parse_sound (ts : List Tok) (p : Program) (h : parseTokens ts = some p)
    (hid : ∀ t ∈ ts, t.kind = .ident → t.text ≠ "overdraft".toList)
    (hkw : ∀ t ∈ ts, t.kind = .kwOverdraft → t.text = "overdraft".toList) :
    p.Printable ∧
    (ts.map (fun t => normKind t.kind) = p.toks.map (·.1) ∨
     (p.vars = [] ∧ ts.map (fun t => normKind t.kind) = [TK.kwVars, TK.lbrace, TK.rbrace] ++ p.toks.map (·.1))) := by
  have hnk : (fun t : Tok => normKind t.kind) = (fun t : Tok => gr_normKind t.kind) := rfl
  rw [hnk]
  have hok : ∀ t ∈ ts, gr_TokOk t := fun t ht => ⟨hid t ht, hkw t ht⟩
  have hnil : ∀ (f n : Nat),
      ((pStatements f n ts).bind fun ss => some (⟨[], ss⟩ : Program)) = some p →
      p.Printable ∧ ts.map (fun t => gr_normKind t.kind) = p.toks.map (·.1) := by
    intro f n h
    simp only [Option.bind_eq_some_iff] at h
    obtain ⟨ss, hs, h⟩ := h
    cases h
    obtain ⟨hp, hk⟩ := gr_statements _ _ _ _ hs hok
    exact ⟨⟨nofun, hp⟩, gr_Inv_all hk⟩
  rw [pt_parseTokens_eq] at h
  split at h
  · rename_i v lb r0
    by_cases hv : v.kind = .kwVars
    · rw [if_pos hv] at h
      by_cases hlb : lb.kind = .lbrace
      · simp only [if_pos hlb, Option.bind_eq_some_iff] at h
        obtain ⟨⟨ds, r1⟩, h1, ss, h2, h⟩ := h
        cases h
        obtain ⟨hpd, hid⟩ := gr_varDecls _ _ _ _ _ h1 (fun x hx => hok x (by simp [hx]))
        obtain ⟨hps, hks⟩ := gr_statements _ _ _ _ h2
          (fun x hx => hok x (by simp [gr_Inv_sub hid x hx]))
        refine ⟨⟨hpd, hps⟩, ?_⟩
        have hall := gr_Inv_all (gr_Written.kind (x := "vars".toList) hv
          (.kind (x := "{".toList) hlb (hid.append hks)))
        by_cases hds : ds = []
        · subst hds
          exact .inr ⟨rfl, by simpa [Program.toks, kw] using hall⟩
        · exact .inl (by simpa [Program.toks, hds, kw] using hall)
      · rw [if_neg hlb] at h; cases h
    · rw [if_neg hv] at h; exact (hnil _ _ h).imp id Or.inl
  · exact (hnil _ _ h).imp id Or.inl

/-- soundness on texts -/
theorem parse_text_sound (text : List Char) (p : Program) (h : parseProgram text = some p) :
    ∃ ts, lex text = some ts ∧ p.Printable ∧
      (ts.map (fun t => normKind t.kind) = p.toks.map (·.1) ∨
       (p.vars = [] ∧ ts.map (fun t => normKind t.kind) = [TK.kwVars, TK.lbrace, TK.rbrace] ++ p.toks.map (·.1))) := by
  unfold parseProgram at h
  split at h
  · rename_i ts hl
    split at h
    · exact ⟨ts, hl, parse_sound ts p h
        (fun t ht hk e => lex_ident_not_keyword text ts hl t ht hk (e ▸ (by decide)))
        (fun t ht hk => lex_fixed_text text ts hl t ht _ (by rw [hk]; rfl))⟩
    · cases h
  · cases h

end NS
