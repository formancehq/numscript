/-
  Properties/C15lex.lean — the lexer model (Model/Lex.lean): tokens come in text order
  without overlap, each token's text is exactly what the source holds at the token's
  position, and no token contains a line break (so `tokenToRange`/`ctxToRange`, which add
  the length of the last token to its column, delimit exactly the text of the construct).
-/
import Proofs.LexLemmas

namespace NS

/-- tokens are non-empty, in text order, and do not overlap -/
theorem lex_sorted (cs : List Char) (ts : List Tok) (h : lex cs = some ts) : TokensSorted ts :=
  (lx_loop_inv cs _ cs 0 0 ts h (by simp [dropToPos])).2.2

/-- the text of every token is the text of the source at the token's position, on one line -/
theorem lex_located (cs : List Char) (ts : List Tok) (h : lex cs = some ts) : ∀ t ∈ ts, t.Located cs :=
  (lx_loop_inv cs _ cs 0 0 ts h (by simp [dropToPos])).1

/-- any fuel above the length of the text gives the answer of `lex`: a `none` of `lex` is never a lack of fuel -/
theorem lexLoop_fuel_irrelevant (cs : List Char) (line col f : Nat) (hf : cs.length < f) :
    lexLoop f cs line col = lexLoop (cs.length + 1) cs line col :=
  lx_fuel f (cs.length + 1) cs line col hf (Nat.lt_succ_self _)

/-- the tokens together are not longer than the text (they and the skipped stretches are consecutive pieces of it) -/
theorem lex_lengths (cs : List Char) (ts : List Tok) (h : lex cs = some ts) :
    (ts.map (fun t => t.text.length)).sum ≤ cs.length := by
  refine lx_lexLoop_induct (fun cs _ _ ts => (ts.map (fun t => t.text.length)).sum ≤ cs.length)
    (fun _ _ => Nat.le_refl _) ?_ ?_ _ cs 0 0 ts h
  · intro a cs n _ _ ts _ ih
    rw [List.length_drop] at ih
    omega
  · intro a cs kind n _ _ ts _ ih
    rw [List.length_drop] at ih
    simp only [List.map_cons, List.sum_cons, List.length_take]
    omega

end NS
