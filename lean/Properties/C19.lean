/-
  Properties/C19.lean — the language server answers from the latest text of the
  right document (refinement of `lspRun` to "latest text per URI"), and
  navigation finds the variable under the cursor.
-/
import Model.Lsp
import Spec.Names
import Proofs.LspLemmas

namespace NS

/-- the latest (tree, parse errors) opened or changed under `uri` in a history -/
def latest : List Req → String → Option (Program × List Diag)
  | [], _ => none
  | r :: rs, uri =>
      match latest rs uri with
      | some x => some x
      | none =>
        match r with
        | .didOpen u prog pd => if u = uri then some (prog, pd) else none
        | .didChange u prog pd => if u = uri then some (prog, pd) else none
        | _ => none

/-- what a fresh analysis of the latest text of `uri` gives -/
def freshDoc (h : List Req) (uri : String) : Option Doc :=
  match latest h uri with
  | none => none
  | some (prog, pd) =>
      match checkProgram pd prog with
      | .ok st => some ⟨prog, st⟩
      | _ => none

/-- the refinement, from an arbitrary start state: after a successful run, the document under `uri`
    is the fresh analysis of the latest text for `uri` in the history, or what the start state had
    when the history has none -/
theorem ls_run_lookup (uri : String) : ∀ (h : List Req) (s0 s : LspState) (resps : List Resp),
    lspRun s0 h = .ok (s, resps) →
    lookupDoc s uri = (match latest h uri with
                       | none => lookupDoc s0 uri
                       | some b => ls_analyse b)
  | [], s0, s, resps, hrun => by cases hrun; rfl
  | r :: rs, s0, s, resps, hrun => by
      obtain ⟨s1, resp, resps', hstep, hrest⟩ := ls_run_cons hrun
      rw [ls_run_lookup uri rs s1 s resps' hrest, ls_step_lookup hstep uri]
      simp only [latest]
      cases latest rs uri with
      | some x => rfl
      | none => cases r <;> rfl

/-- the strong form of the refinement: after any history from the empty store, the stored document
    under every URI IS (as a value, not only in projection) the fresh analysis of the latest text -/
theorem ls_lookup_latest (h : List Req) (s : LspState) (resps : List Resp)
    (hrun : lspRun [] h = .ok (s, resps)) (uri : String) : lookupDoc s uri = freshDoc h uri := by
  rw [ls_run_lookup uri h [] s resps hrun, freshDoc]
  cases latest h uri <;> rfl

/-- after any history, the document stored under every URI is a fresh analysis of the latest
    text sent for that URI — never a stale version, never another document's -/
theorem lsp_state_is_latest (h : List Req) (s : LspState) (resps : List Resp)
    (hrun : lspRun [] h = .ok (s, resps)) (uri : String) :
    (lookupDoc s uri).map (fun d => (d.prog, d.st.diags)) = (freshDoc h uri).map (fun d => (d.prog, d.st.diags)) := by
  rw [ls_lookup_latest h s resps hrun uri]

/-- hence every hover answer after a history equals the answer of a fresh analysis of the latest text -/
theorem lsp_hover_answers_latest (h : List Req) (s : LspState) (resps : List Resp)
    (hrun : lspRun [] h = .ok (s, resps)) (uri : String) (pos : Pos) (s' : LspState) (resp : Resp)
    (hstep : lspStep s (.hover uri pos) = .ok (s', resp)) :
    s' = s ∧
    resp = (match freshDoc h uri with
            | none => Resp.null
            | some d =>
              match lspHover d.prog d.st pos with
              | .ok (some (t, r)) => Resp.hover t r
              | _ => Resp.null) := by
  obtain rfl : s' = s := ls_query_state trivial hstep
  refine ⟨rfl, ?_⟩
  have hl := ls_lookup_latest h s' resps hrun uri
  simp only [lspStep, hl] at hstep
  cases hf : freshDoc h uri with
  | none =>
      rw [hf] at hstep
      simp only at hstep ⊢
      cases hstep; rfl
  | some d =>
      rw [hf] at hstep
      simp only at hstep ⊢
      split at hstep <;> rename_i hh <;> cases hstep <;> simp [hh]

/-- a request about a document that was never opened yields null -/
theorem lsp_unknown_document (h : List Req) (s : LspState) (resps : List Resp)
    (hrun : lspRun [] h = .ok (s, resps)) (uri : String) (hnone : latest h uri = none) (pos : Pos) :
    lspStep s (.hover uri pos) = .ok (s, .null) ∧ lspStep s (.definition uri pos) = .ok (s, .null) ∧
    lspStep s (.symbols uri) = .ok (s, .null) := by
  have hl := ls_lookup_latest h s resps hrun uri
  have hn : lookupDoc s uri = none := by
    rw [hl]; simp [freshDoc, hnone]
  simp [lspStep, hn]

/-- a change to one document leaves every answer about another document unchanged -/
theorem lsp_no_cross_document (s s' : LspState) (u1 u2 : String) (prog : Program) (pd : List Diag) (resp : Resp)
    (hne : u1 ≠ u2) (hstep : lspStep s (.didChange u1 prog pd) = .ok (s', resp)) :
    lookupDoc s' u2 = lookupDoc s u2 := by
  obtain ⟨st, _, rfl⟩ := ls_update_ok (by simpa [lspStep] using hstep)
  rw [ls_lookup_cons]
  simp [hne]

theorem lsp_queries_pure (s s' : LspState) (r : Req) (resp : Resp)
    (hq : match r with | .didOpen .. => False | .didChange .. => False | _ => True)
    (hstep : lspStep s r = .ok (s', resp)) : s' = s :=
  ls_query_state hq hstep

/-! ### navigation -/

/-- hover is sound: when it answers with a variable, that variable occurs in the expression and
    its token contains the cursor -/
theorem hover_expr_sound (e : Expr) (pos : Pos) (r : Range) (n : String)
    (h : hoverOnExpression e pos = .ok (some (.variable r n))) : (r, n) ∈ usesE e ∧ r.contains pos = true := by
  obtain ⟨r', n', e', hm, hc⟩ := ls_hoverE_sound e pos _ h
  cases e'
  exact ⟨hm, hc⟩

/-- an expression whose node ranges contain the ranges of their children -/
def Expr.Nested : Expr → Prop
  | .monetary r a n => (∀ p, a.range.contains p = true → a ≠ .nil → r.contains p = true) ∧
                       (∀ p, n.range.contains p = true → n ≠ .nil → r.contains p = true) ∧ a.Nested ∧ n.Nested
  | .infix r _ l rgt => (∀ p, l.range.contains p = true → l ≠ .nil → r.contains p = true) ∧
                        (∀ p, rgt.range.contains p = true → rgt ≠ .nil → r.contains p = true) ∧ l.Nested ∧ rgt.Nested
  | _ => True

theorem ls_occ_in_range (e : Expr) (hn : e.Nested) (pos : Pos) (r : Range) (n : String)
    (hmem : (r, n) ∈ usesE e) (hin : r.contains pos = true) :
    e.range.contains pos = true ∧ e ≠ .nil := by
  induction e with
  | var r' n' =>
      cases List.mem_singleton.1 hmem
      exact ⟨hin, by simp⟩
  | monetary rr a m iha ihm =>
      obtain ⟨ha1, hm1, Na, Nm⟩ := hn
      refine ⟨?_, by simp⟩
      rcases List.mem_append.1 hmem with hmem | hmem
      · exact ha1 pos (iha Na hmem).1 (iha Na hmem).2
      · exact hm1 pos (ihm Nm hmem).1 (ihm Nm hmem).2
  | «infix» rr op l rgt ihl ihr =>
      obtain ⟨hl1, hr1, Nl, Nr⟩ := hn
      refine ⟨?_, by simp⟩
      rcases List.mem_append.1 hmem with hmem | hmem
      · exact hl1 pos (ihl Nl hmem).1 (ihl Nl hmem).2
      · exact hr1 pos (ihr Nr hmem).1 (ihr Nr hmem).2
  | _ => cases hmem

/-- hover is complete on well-nested expressions: a cursor inside exactly one variable token finds it -/
theorem hover_expr_complete (e : Expr) (hb : e ≠ .monetaryNil) (hn : e.Nested) (pos : Pos) (r : Range) (n : String)
    (hmem : (r, n) ∈ usesE e) (hin : r.contains pos = true)
    (huniq : ∀ o ∈ usesE e, o.1.contains pos = true → o = (r, n))
    (hnil : ∀ s, hoverOnExpression e pos ≠ .panic s) :
    hoverOnExpression e pos = .ok (some (.variable r n)) := by
  clear hb   -- `usesE .monetaryNil = []` contradicts `hmem`
  induction e with
  | var r' n' =>
      cases List.mem_singleton.1 hmem
      simp [hoverOnExpression, hin]
  | monetary rr a m iha ihm =>
      have hrr : rr.contains pos = true := (ls_occ_in_range _ hn pos r n hmem hin).1
      simp only [ls_hoverE_monetary, hrr, Bool.not_true, Bool.false_eq_true, if_false] at hnil ⊢
      have hua := fun o ho => huniq o (List.mem_append_left _ ho)
      have hum := fun o ho => huniq o (List.mem_append_right _ ho)
      -- `m` is searched first
      refine ls_orElse_eq_some (ls_hoverE_ne_err m pos) hnil (fun _ => ls_hoverE_unique hum) fun h => ?_
      rw [h] at hnil
      rcases List.mem_append.1 hmem with hmem | hmem
      · exact iha hn.2.2.1 hmem hua hnil
      · cases (ihm hn.2.2.2 hmem hum (by simp [h])).symm.trans h
  | «infix» rr op l rgt ihl ihr =>
      have hrr : rr.contains pos = true := (ls_occ_in_range _ hn pos r n hmem hin).1
      simp only [ls_hoverE_infix, hrr, Bool.not_true, Bool.false_eq_true, if_false] at hnil ⊢
      have hul := fun o ho => huniq o (List.mem_append_left _ ho)
      have hur := fun o ho => huniq o (List.mem_append_right _ ho)
      refine ls_orElse_eq_some (ls_hoverE_ne_err l pos) hnil (fun _ => ls_hoverE_unique hul) fun h => ?_
      rw [h] at hnil
      rcases List.mem_append.1 hmem with hmem | hmem
      · cases (ihl hn.2.2.1 hmem hul (by simp [h])).symm.trans h
      · exact ihr hn.2.2.2 hmem hur hnil
  | _ => cases hmem

/-- go-to-definition returns the range of the name in the declaration the use was resolved to -/
theorem goto_is_declaration (prog : Program) (st : CState) (pos : Pos) (r : Range) (n : String) (d : VarDecl)
    (nr : Range) (hh : hoverOn prog pos = .ok (some (.variable r n))) (hres : resolveVar st r n = some d)
    (hname : d.name = some (nr, n)) : gotoDefinition prog st pos = .ok (some nr) := by
  simp [gotoDefinition, hh, hres, hname]

/-- the hover text of a resolved variable shows its name and declared type -/
theorem hover_text_is_decl_type (prog : Program) (st : CState) (pos : Pos) (r : Range) (n : String) (d : VarDecl)
    (tr : Range) (t : String) (hh : hoverOn prog pos = .ok (some (.variable r n)))
    (hres : resolveVar st r n = some d) (htype : d.type = some (tr, t)) :
    lspHover prog st pos = .ok (some ("```numscript\n$" ++ n ++ ": " ++ t ++ "\n```", r)) := by
  simp [lspHover, hh, hres, htype]

end NS
