/-
  Properties/C15layout.lean — C15, "inserting whitespace, newlines or comments between tokens never changes the
  tree", is false as it stands for the token grammar of Numscript.g4, because '/' is an ASSET character and the
  longest match wins.  The two witnesses below are facts about the lexer model; `vlib/check_c15.py` replays them on
  the real parser on every run (known findings `comment-glued-to-asset-token` and
  `asset-of-slashes-becomes-a-comment`).  What holds instead: the tree depends only on the kinds and texts of the
  tokens (`parse_layout_independent`, Properties/C15tree.lean), and layout that keeps a whitespace character directly
  after every token leaves the token stream as it is (`lex_layout_insertion_partial`, Properties/C15layout2.lean).
-/
import Spec.ParseSpec

namespace NS

/-- witness 1: a comment written directly after an asset is swallowed by the asset token -/
theorem layout_insertion_fails_comment_after_asset :
    (lex "A /**/".toList).map (·.map Tok.shape) = some [(.asset, ['A'])] ∧
    (lex "A/**/".toList).map (·.map Tok.shape) =
      some [(.asset, "A/".toList), (.star, ['*']), (.star, ['*']), (.asset, ['/'])] := by
  decide

/-- witness 2: an asset made of two slashes is a token on a last line without newline, and the opening
    of a line comment as soon as a newline follows -/
theorem layout_insertion_fails_newline_after_slashes :
    (lex "//".toList).map (·.map Tok.shape) = some [(.asset, "//".toList)] ∧
    (lex "//\n".toList).map (·.map Tok.shape) = some [] := by
  decide

/-- no witness against layout insertion — the blank is inside one token — but the reason why `best_of_lexable` needs
    its hypothesis: a number, ONE blank and a slash followed by a digit are a single ratio token -/
theorem ratio_absorbs_one_blank :
    (lex "1 /2".toList).map (·.map Tok.shape) = some [(.ratio, "1 /2".toList)] ∧
    (lex "1  /2".toList).map (·.map Tok.shape) = some [(.number, ['1']), (.asset, "/2".toList)] := by
  decide

end NS
