/-
  Properties/C0809.lean — `save` reserves funds (C08); statements compose
  sequentially and metadata is last-write-wins (C09).
-/
import Proofs.LedgerLemmas

namespace NS

/-! ### the cache as balances -/

/-- reading back what was written; every other entry is unchanged -/
theorem cacheGet_cacheSet (c : Cache) (a s : String) (v : Int) (a' s' : String) :
    cacheGet (cacheSet c a s v) a' s' = if a' = a ∧ s' = s then v else cacheGet c a' s' :=
  lg_cacheGet_cacheSet c a s v a' s'

/-- `getPostings`: applying a statement's postings to the cache is replaying them on the balances it denotes -/
theorem cache_tracks_replay (c : Cache) (ps : List Posting) :
    balOfCache (applyPostings c ps) = replay (balOfCache c) ps := by
  induction ps generalizing c with
  | nil => rfl
  | cons p t ih =>
    simp only [applyPostings, replay]
    rw [ih, lg_balOfCache_step]

/-! ### C08: save -/

/-- what a later statement sees after `save [c n] from x` / `save [c *] from x`:
    the balance reduced by `n` but not below zero (all of it for `*`); a balance that is already
    negative (or zero) is left as it is; every other entry is unchanged; no posting -/
theorem save_visible_balance (vars : Vars) (st st' : RState) (sv : SentValue) (acc : Expr) (ps : List Posting)
    (asset x : String) (amt : Option Int)
    (hsv : evaluateSentAmt vars sv = .ok (asset, amt)) (hacc : evalAs vars acc expectAccount = .ok x)
    (h : runSaveStatement vars st sv acc = .ok (ps, st')) :
    ps = [] ∧ st'.txMeta = st.txMeta ∧ st'.accMeta = st.accMeta ∧
    (∀ a c, cacheGet st'.cache a c =
      if a = x ∧ c = asset then savedBalance (cacheGet st.cache x asset) amt else cacheGet st.cache a c) := by
  unfold runSaveStatement at h
  rw [hsv] at h
  simp only [hacc] at h
  have hst : ps = [] ∧
      st' = { st with cache := cacheSet st.cache x asset (savedBalance (cacheGet st.cache x asset) amt) } := by
    cases amt with
    | none =>
      cases h
      exact ⟨rfl, rfl⟩
    | some n =>
      simp only at h
      split at h <;> cases h
      exact ⟨rfl, rfl⟩
  obtain ⟨rfl, rfl⟩ := hst
  exact ⟨rfl, rfl, rfl, fun a c => lg_cacheGet_cacheSet _ _ _ _ _ _⟩

theorem savedBalance_spec (b : Int) (amt : Option Int) (hn : ∀ n, amt = some n → 0 ≤ n) :
    (b ≤ 0 → savedBalance b amt = b) ∧
    (0 < b → amt = none → savedBalance b amt = 0) ∧
    (∀ n, 0 < b → amt = some n → savedBalance b amt = max 0 (b - n)) ∧
    savedBalance b amt ≤ b ∧ (0 ≤ b → 0 ≤ savedBalance b amt) := by
  refine ⟨fun hb => ?_, fun hb e => ?_, fun n hb e => ?_, ?_, fun hb => ?_⟩
  · cases amt <;> exact if_neg (Int.not_lt.2 hb)
  · subst e
    exact if_pos hb
  · subst e
    exact if_pos hb
  · cases amt with
    | none => simp only [savedBalance]; split <;> omega
    | some n =>
      have := hn n rfl
      simp only [savedBalance]; split <;> omega
  · cases amt <;> simp only [savedBalance] <;> split <;> omega

theorem save_negative_rejected (vars : Vars) (st : RState) (sv : SentValue) (acc : Expr) (asset x : String) (n : Int)
    (hsv : evaluateSentAmt vars sv = .ok (asset, some n)) (hacc : evalAs vars acc expectAccount = .ok x) (hn : n < 0) :
    runSaveStatement vars st sv acc = .err (.negativeAmount n) := by
  unfold runSaveStatement
  rw [hsv]
  simp only [hacc]
  rw [if_pos hn]

/-! ### C09: sequential composition -/

/-- running `S₁ ++ S₂` is running `S₁`, then `S₂` from the state `S₁` left; postings concatenate;
    nothing else is carried over (the state is exactly `RState`: cache and the two metadata maps) -/
theorem run_append (vars : Vars) (s1 s2 : List Statement) (st : RState) :
    runStatements vars (s1 ++ s2) st =
      (match runStatements vars s1 st with
       | .ok (p1, st1) =>
          (match runStatements vars s2 st1 with
           | .ok (p2, st2) => .ok (p1 ++ p2, st2)
           | .err e => .err e
           | .panic s => .panic s)
       | .err e => .err e
       | .panic s => .panic s) :=
  lg_run_append vars s1 s2 st

/-- metadata: a later write overrides an earlier one for the same key … -/
theorem assocSet_get_same {κ ν : Type} [BEq κ] [LawfulBEq κ] (m : List (κ × ν)) (k : κ) (v : ν) :
    assocGet (assocSet m k v) k = some v := by
  rw [lg_assocGet_assocSet, if_pos (beq_self_eq_true k)]

/-- … and leaves every other key intact -/
theorem assocSet_get_other {κ ν : Type} [BEq κ] [LawfulBEq κ] (m : List (κ × ν)) (k k' : κ) (v : ν) (h : k' ≠ k) :
    assocGet (assocSet m k v) k' = assocGet m k' := by
  rw [lg_assocGet_assocSet, if_neg fun e => h (beq_iff_eq.mp e)]

/-- a `set_tx_meta` statement only writes its key -/
theorem set_tx_meta_effect (vars : Vars) (st st' : RState) (fn : FnCall) (ps : List Posting) (key : String) (v : Value)
    (hname : fn.name = "set_tx_meta") (hargs : evalExprs vars fn.args = .ok [.str key, v])
    (h : runStatement vars st (.fnCall fn) = .ok (ps, st')) :
    ps = [] ∧ st'.cache = st.cache ∧ st'.accMeta = st.accMeta ∧ st'.txMeta = assocSet st.txMeta key v := by
  simp only [runStatement, hargs] at h
  simp only [hname, if_true, parseArgs2, expectString, Outcome.ok_bind, Outcome.pure_eq] at h
  simp only [Outcome.ok.injEq, Prod.mk.injEq] at h
  obtain ⟨h1, h2⟩ := h
  subst h2
  exact ⟨h1.symm, rfl, rfl, rfl⟩

theorem set_account_meta_effect (vars : Vars) (st st' : RState) (fn : FnCall) (ps : List Posting)
    (account key : String) (v : Value)
    (hname : fn.name = "set_account_meta") (hargs : evalExprs vars fn.args = .ok [.account account, .str key, v])
    (h : runStatement vars st (.fnCall fn) = .ok (ps, st')) :
    ps = [] ∧ st'.cache = st.cache ∧ st'.txMeta = st.txMeta ∧
      st'.accMeta = assocSet st.accMeta (account, key) v.render := by
  simp only [runStatement, hargs] at h
  have hne : ¬ ("set_account_meta" = "set_tx_meta") := by decide
  simp only [hname, hne, if_true, if_false, parseArgs3, expectAccount, expectString, Outcome.ok_bind,
    Outcome.pure_eq] at h
  simp only [Outcome.ok.injEq, Prod.mk.injEq] at h
  obtain ⟨h1, h2⟩ := h
  subst h2
  exact ⟨h1.symm, rfl, rfl, rfl⟩

/-- replay composes: the balances after `p₁ ++ p₂` are the balances after `p₂` from those after `p₁` -/
theorem replay_append (B : Bal) (p1 p2 : List Posting) : replay B (p1 ++ p2) = replay (replay B p1) p2 := by
  induction p1 generalizing B with
  | nil => rfl
  | cons p t ih => simp only [List.cons_append, replay, ih]

/-- per-account effect of a replay (one asset): balance − debits + credits -/
theorem replay_effect (B : Bal) (ps : List Posting) (asset : String) (hps : ∀ p ∈ ps, p.asset = asset) (a : String) :
    replay B ps a asset = B a asset - debitsOf ps a + creditsOf ps a := by
  induction ps generalizing B with
  | nil =>
    simp only [replay, debitsOf, creditsOf, List.filter_nil, List.map_nil, List.sum_nil, Int.sub_zero,
      Int.add_zero]
  | cons p t ih =>
    obtain ⟨rfl, ht⟩ := List.forall_mem_cons.mp hps
    rw [replay, ih _ ht, lg_debitsOf_cons, lg_creditsOf_cons, lg_applyPosting_apply]
    omega

theorem replay_other_asset (B : Bal) (ps : List Posting) (asset c : String) (hps : ∀ p ∈ ps, p.asset = asset)
    (hc : c ≠ asset) (a : String) : replay B ps a c = B a c := by
  induction ps generalizing B with
  | nil => rfl
  | cons p t ih =>
    obtain ⟨hp, ht⟩ := List.forall_mem_cons.mp hps
    rw [replay, ih _ ht]
    simp only [applyPosting, hp, hc, and_false, if_false]

/-! `savedBalance` on a negative balance, for `save [c 5]` and for `save [c *]` -/
example : savedBalance (-10) (some 5) = -10 := by decide
example : savedBalance 7 (some 5) = 2 := by decide
example : savedBalance 7 none = 0 := by decide

end NS
