/-
  Properties/C04.lean — sources are drawn in declared order, each to its limit
  before the next.  The interpreter's source functions (Model/Source.lean)
  refine the greedy draw of Spec/Draw.lean; the "greedy" reading lemmas are
  proved about the draw itself.
-/
import Proofs.DrawLemmas

namespace NS

/-- what is available to a statement: cached balance minus what it already pulled -/
def availOf (env : Env) (snd : Senders) : Avail :=
  fun a => cacheGet env.cache a env.asset - pulled snd a

theorem availOf_eq_avOf : availOf = avOf := rfl

/-- Whenever the source expression resolves, `trySendingUpTo` is the greedy draw:
    same pulls (zero amounts are not queued), same total, same failure. -/
theorem send_refines_draw (env : Env) (src : Source) (r : RSource) (need : Int) (snd : Senders)
    (hr : resolveS env.vars env.asset src = .ok r) :
    trySendingUpTo env src need snd =
      (match draw env.asset r (availOf env snd) need with
       | .ok l => .ok (sumPulls l, snd ++ nonzero l)
       | .err e => .err e
       | .panic s => .panic s) := by
  rw [send_refines env src r need snd hr, ← availOf_eq_avOf]
  cases draw env.asset r (availOf env snd) need <;> rfl

/-- the same for "send all" -/
theorem sendAll_refines_drawAll (env : Env) (src : Source) (r : RSource) (snd : Senders)
    (hr : resolveS env.vars env.asset src = .ok r) :
    sendAll env src snd =
      (match drawAll env.asset r (availOf env snd) with
       | .ok l => .ok (sumPulls l, snd ++ nonzero l)
       | .err e => .err e
       | .panic s => .panic s) := by
  rw [sendAll_refines env src r snd hr, ← availOf_eq_avOf]
  cases drawAll env.asset r (availOf env snd) <;> rfl

theorem trySendingToAccount_ok_eval {env : Env} {addr : Expr} {amount : Int} {od : Option Int}
    {snd : Senders} {x : Int × Senders} (h : trySendingToAccount env addr amount od snd = .ok x) :
    ∃ a, evalAs env.vars addr expectAccount = .ok a := by
  unfold trySendingToAccount at h
  split at h <;> try cases h
  exact ⟨_, ‹_›⟩

theorem sendAllToAccount_ok_eval {env : Env} {addr : Expr} {od : Option Int} {snd : Senders}
    {x : Int × Senders} (h : sendAllToAccount env addr od snd = .ok x) :
    ∃ a, evalAs env.vars addr expectAccount = .ok a := by
  unfold sendAllToAccount at h
  split at h <;> try cases h
  exact ⟨_, ‹_›⟩

mutual
/-- a successful draw has visited (and evaluated) the whole source expression -/
theorem send_ok_resolves (env : Env) (src : Source) (need : Int) (snd : Senders) (x : Int × Senders)
    (h : trySendingUpTo env src need snd = .ok x) : ∃ r, resolveS env.vars env.asset src = .ok r := by
  match src with
  | .nil => cases h
  | .account e | .overdraft _ e none =>
      rw [trySendingUpTo] at h
      obtain ⟨a, ha⟩ := trySendingToAccount_ok_eval h
      simp only [resolveS, ha, Outcome.ok.injEq, exists_eq']
  | .overdraft _ addr (some b) =>
      rw [trySendingUpTo] at h
      split at h <;> try cases h
      rename_i c hc
      obtain ⟨a, ha⟩ := trySendingToAccount_ok_eval h
      simp only [resolveS, ha, hc, Outcome.ok.injEq, exists_eq']
  | .inorder _ srcs =>
      rw [trySendingUpTo] at h
      split at h <;> cases h
      rename_i hs
      obtain ⟨rs, hrs⟩ := sendInorder_ok_res env srcs need snd _ hs
      simp only [resolveS, hrs, Outcome.ok.injEq, exists_eq']
  | .capped _ cap src =>
      rw [trySendingUpTo] at h
      split at h <;> try cases h
      rename_i c hc
      obtain ⟨r, hr⟩ := send_ok_resolves env src _ snd x h
      simp only [resolveS, hc, hr, Outcome.ok.injEq, exists_eq']
  | .allotment _ items =>
      rw [trySendingUpTo, makeAllotment_eq] at h
      split at h <;> try cases h
      rename_i parts hparts
      obtain ⟨qs, hqs, _⟩ := Outcome.bind_eq_ok hparts
      split at h <;> cases h
      rename_i hs
      obtain ⟨subs, hsubs⟩ := sendAllotItems_ok_res env items parts snd _ hs
      simp only [resolveS, hqs, hsubs, Outcome.ok.injEq, exists_eq']

theorem sendInorder_ok_res (env : Env) : ∀ (srcs : List Source) (left : Int) (snd : Senders) (x : Int × Senders),
    sendInorder env srcs left snd = .ok x → ∃ rs, resolveSList env.vars env.asset srcs = .ok rs
  | [], left, snd, x, h => ⟨_, rfl⟩
  | s :: ss, left, snd, x, h => by
      rw [sendInorder] at h
      split at h <;> try cases h
      rename_i h1
      obtain ⟨r, hr⟩ := send_ok_resolves env s left snd _ h1
      obtain ⟨rs, hrs⟩ := sendInorder_ok_res env ss _ _ x h
      simp only [resolveSList, hr, hrs, Outcome.ok.injEq, exists_eq']

theorem sendAllotItems_ok_res (env : Env) : ∀ (items : List SrcItem) (parts : List Int) (snd : Senders) (x : Senders),
    sendAllotItems env items parts snd = .ok x → ∃ subs, resolveSItems env.vars env.asset items = .ok subs
  | [], parts, snd, x, h => ⟨_, rfl⟩
  | _ :: _, [], snd, x, h => by cases h
  | (.mk _ _ src) :: rest, p :: ps, snd, x, h => by
      rw [sendAllotItems] at h
      split at h <;> try cases h
      rename_i h1
      obtain ⟨r, hr⟩ := send_ok_resolves env src p snd _ h1
      split at h <;> try cases h
      obtain ⟨rs, hrs⟩ := sendAllotItems_ok_res env rest ps _ x h
      simp only [resolveSItems, hr, hrs, Outcome.ok.injEq, exists_eq']
end

mutual
theorem sendAll_ok_resolves (env : Env) (src : Source) (snd : Senders) (x : Int × Senders)
    (h : sendAll env src snd = .ok x) : ∃ r, resolveS env.vars env.asset src = .ok r := by
  match src with
  | .nil | .allotment _ _ => cases h
  | .account e | .overdraft _ e none =>
      rw [sendAll] at h
      obtain ⟨a, ha⟩ := sendAllToAccount_ok_eval h
      simp only [resolveS, ha, Outcome.ok.injEq, exists_eq']
  | .overdraft _ addr (some b) =>
      rw [sendAll] at h
      split at h <;> try cases h
      rename_i c hc
      obtain ⟨a, ha⟩ := sendAllToAccount_ok_eval h
      simp only [resolveS, ha, hc, Outcome.ok.injEq, exists_eq']
  | .inorder _ srcs =>
      rw [sendAll] at h
      obtain ⟨rs, hrs⟩ := sendAllList_ok_res env srcs 0 snd _ h
      simp only [resolveS, hrs, Outcome.ok.injEq, exists_eq']
  | .capped _ cap src =>
      rw [sendAll] at h
      split at h <;> try cases h
      rename_i c hc
      obtain ⟨r, hr⟩ := send_ok_resolves env src _ snd x h
      simp only [resolveS, hc, hr, Outcome.ok.injEq, exists_eq']

theorem sendAllList_ok_res (env : Env) : ∀ (srcs : List Source) (total : Int) (snd : Senders) (x : Int × Senders),
    sendAllList env srcs total snd = .ok x → ∃ rs, resolveSList env.vars env.asset srcs = .ok rs
  | [], total, snd, x, h => ⟨_, rfl⟩
  | s :: ss, total, snd, x, h => by
      rw [sendAllList] at h
      split at h <;> try cases h
      rename_i h1
      obtain ⟨r, hr⟩ := sendAll_ok_resolves env s snd _ h1
      obtain ⟨rs, hrs⟩ := sendAllList_ok_res env ss _ _ x h
      simp only [resolveSList, hr, hrs, Outcome.ok.injEq, exists_eq']
end

/-! ### the draw is greedy, in declared order -/

/-- an account gives min(what is still needed, its balance plus granted overdraft); an overdrawn
    balance counts as nothing to give -/
theorem draw_account (asset a : String) (od : Int) (av : Avail) (need : Int) :
    draw asset (.acct a od) av need = .ok [(a, min (max 0 (av a + od)) need)] := by
  simp only [draw]

/-- @world / an unbounded-overdraft account gives everything still needed -/
theorem unbounded_gives_all (asset a : String) (av : Avail) (need : Int) :
    draw asset (.unb a) av need = .ok [(a, need)] := by
  simp only [draw]

/-- the total never goes below zero nor above what is needed.  `allotLenOk r` is the
    well-formedness of a resolved tree (an allotment has as many portions as sub-sources); every tree
    produced by `resolveS` satisfies it (`resolveS_allotLenOk`). -/
theorem draw_total_le_need (asset : String) (r : RSource) (av : Avail) (need : Int) (l : Pulls)
    (hk : allotLenOk r) (hn : 0 ≤ need) (h : draw asset r av need = .ok l) :
    0 ≤ sumPulls l ∧ sumPulls l ≤ need := by
  have := draw_bounds asset r av need l hk h
  omega

/-- the same, directly for the tree denoted by a source expression -/
theorem draw_total_le_need_of_resolved (vars : Vars) (asset : String) (src : Source) (r : RSource)
    (av : Avail) (need : Int) (l : Pulls) (hr : resolveS vars asset src = .ok r) (hn : 0 ≤ need)
    (h : draw asset r av need = .ok l) : 0 ≤ sumPulls l ∧ sumPulls l ≤ need :=
  draw_total_le_need asset r av need l (resolveS_allotLenOk vars asset src r hr) hn h

theorem draw_total_le_need_resolved (vars : Vars) (asset : String) (src : Source) (r : RSource)
    (av : Avail) (need : Int) (l : Pulls) (hr : resolveS vars asset src = .ok r)
    (hn : 0 ≤ need) (h : draw asset r av need = .ok l) : 0 ≤ sumPulls l ∧ sumPulls l ≤ need :=
  draw_total_le_need_of_resolved vars asset src r av need l hr hn h

/-- a cap bounds what its sub-source gives; a negative cap counts as zero -/
theorem cap_bounds (asset : String) (cap : Int) (s : RSource) (av : Avail) (need : Int) (l : Pulls)
    (hk : allotLenOk s) (h : draw asset (.capped cap s) av need = .ok l) : sumPulls l ≤ max 0 cap := by
  have := draw_bounds asset s av (max 0 (min need cap)) l hk h
  omega

/-! Without `allotLenOk` both bounds fail: an allotment with more portions than sub-sources and a
    negative portion. -/

theorem draw_allot_counterexample :
    draw "USD" (.allot [some 2, some (-1)] [.unb "a"]) (fun _ => 0) 10 = .ok [("a", 20)] := by
  have h : allotOf 10 [some 2, some (-1)] = .ok [20, -10] := by
    simp [allotOf, sumSome, fillRemaining, allotParts, floorShare_eq, bump]
    norm_num
  simp [draw, h, drawAllot, sumPulls]

theorem draw_total_le_need_unrestricted_false :
    ¬ ∀ (asset : String) (r : RSource) (av : Avail) (need : Int) (l : Pulls),
      0 ≤ need → draw asset r av need = .ok l → 0 ≤ sumPulls l ∧ sumPulls l ≤ need := by
  intro h
  have := (h _ _ _ 10 _ (by omega) draw_allot_counterexample).2
  simp at this

theorem cap_bounds_unrestricted_false :
    ¬ ∀ (asset : String) (cap : Int) (s : RSource) (av : Avail) (need : Int) (l : Pulls),
      0 ≤ need → draw asset (.capped cap s) av need = .ok l → sumPulls l ≤ max 0 cap := by
  intro h
  have := h "USD" 10 (.allot [some 2, some (-1)] [.unb "a"]) (fun _ => 0) 10 [("a", 20)] (by omega)
    (by simp only [draw]; exact draw_allot_counterexample)
  simp at this

/-- in an in-order list a later source is asked only for what the earlier ones could not give,
    and sees what they left -/
theorem inorder_sequential (asset : String) (s : RSource) (ss : List RSource) (av : Avail) (need : Int)
    (l : Pulls) (h : draw asset (.inorder (s :: ss)) av need = .ok l) :
    ∃ l1 l2, l = l1 ++ l2 ∧ draw asset s av need = .ok l1 ∧
      draw asset (.inorder ss) (availAfter av l1) (need - sumPulls l1) = .ok l2 := by
  obtain ⟨l1, l2, h1, h2, rfl⟩ := drawList_cons_ok h
  exact ⟨l1, l2, rfl, h1, h2⟩

/-- … so if a later source contributes anything, a leading bounded account was drained to its limit -/
theorem inorder_later_only_if_earlier_exhausted (asset a : String) (od : Int) (ss : List RSource)
    (av : Avail) (need : Int) (l : Pulls) (hn : 0 ≤ need)
    (h : draw asset (.inorder (.acct a od :: ss)) av need = .ok l) :
    ∃ l2, l = (a, min (max 0 (av a + od)) need) :: l2 ∧
      (0 < sumPulls l2 → min (max 0 (av a + od)) need = max 0 (av a + od)) := by
  have _ := hn
  obtain ⟨l1, l2, h1, h2, rfl⟩ := drawList_cons_ok h
  cases h1
  refine ⟨l2, rfl, fun hpos => ?_⟩
  -- otherwise the account gave all that was needed, and nothing is asked of the rest
  by_contra hc
  rw [sumPulls_single, show need - min (max 0 (av a + od)) need = 0 by omega] at h2
  have := drawList_zero asset ss _ l2 h2
  omega

/-- "send all" drains a bounded account to minus its overdraft (when it has anything to give) -/
theorem drawAll_drains (asset a : String) (od : Int) (av : Avail) (h : 0 ≤ av a + od) :
    ∃ l, drawAll asset (.acct a od) av = .ok l ∧ availAfter av l a = -od := by
  refine ⟨[(a, max 0 (av a + od))], by simp only [drawAll], ?_⟩
  simp only [availAfter, pulled]
  simp
  omega

/-- shape of a "send all" source: unbounded and allotment sources only under a cap -/
def sendAllShapeOk : RSource → Bool
  | .acct _ _ => true
  | .unb _ => false
  | .capped _ _ => true
  | .allot _ _ => false
  | .inorder l => l.attach.all (fun ⟨s, _⟩ => sendAllShapeOk s)

theorem sendAllShapeOk_inorder (l : List RSource) :
    sendAllShapeOk (.inorder l) = l.all sendAllShapeOk := by
  rw [sendAllShapeOk]
  simp

mutual
/-- a well-shaped "send all" source is never rejected for its shape -/
theorem sendAll_shape_ok_not_rejected (asset : String) (r : RSource) (av : Avail) (e : Err)
    (hs : sendAllShapeOk r = true) (h : drawAll asset r av = .err e) :
    e ≠ .invalidAllotmentInSendAll ∧ ∀ n, e ≠ .invalidUnboundedInSendAll n := by
  match r with
  | .acct a od => cases h
  | .unb a | .allot _ _ => simp [sendAllShapeOk] at hs
  | .capped cap s =>
      rcases draw_err asset s av (max 0 cap) e h with ⟨a, n, m, rfl⟩ | ⟨q, rfl⟩ <;> simp
  | .inorder l =>
      rw [sendAllShapeOk_inorder] at hs
      exact drawAllList_shape_err asset l av e hs h

theorem drawAllList_shape_err (asset : String) : ∀ (l : List RSource) (av : Avail) (e : Err),
    l.all sendAllShapeOk = true → drawAllList asset l av = .err e →
    e ≠ .invalidAllotmentInSendAll ∧ ∀ n, e ≠ .invalidUnboundedInSendAll n
  | [], av, e, _, h => by cases h
  | s :: ss, av, e, hs, h => by
      simp only [List.all_cons, Bool.and_eq_true] at hs
      rw [drawAllList] at h
      split at h
      · cases h
      · cases h
        exact sendAll_shape_ok_not_rejected asset s av _ hs.1 ‹_›
      · split at h <;> cases h
        exact drawAllList_shape_err asset ss _ _ hs.2 ‹_›
end

mutual
/-- an ill-shaped one never succeeds -/
theorem sendAll_shape_bad_rejected (asset : String) (r : RSource) (av : Avail)
    (hs : sendAllShapeOk r = false) : ∀ l, drawAll asset r av ≠ .ok l := by
  intro l h
  match r with
  | .acct a od | .capped cap s => simp [sendAllShapeOk] at hs
  | .unb a | .allot _ _ => cases h
  | .inorder rs =>
      rw [sendAllShapeOk_inorder] at hs
      exact drawAllList_shape_bad asset rs av l hs h

theorem drawAllList_shape_bad (asset : String) : ∀ (rs : List RSource) (av : Avail) (l : Pulls),
    rs.all sendAllShapeOk = false → drawAllList asset rs av ≠ .ok l
  | [], av, l, hs => by simp at hs
  | s :: ss, av, l, hs => by
      intro h
      obtain ⟨l1, l2, h1, h2, rfl⟩ := drawAllList_cons_ok h
      simp only [List.all_cons, Bool.and_eq_false_iff] at hs
      rcases hs with hs | hs
      · exact sendAll_shape_bad_rejected asset s av hs l1 h1
      · exact drawAllList_shape_bad asset ss _ l2 hs h2
end

/-! non-vacuity (tests): a repeated account gives its balance once -/
example : draw "USD" (.inorder [.acct "a" 0, .acct "a" 0]) (fun _ => 10) 20 = .ok [("a", 10), ("a", 0)] := by
  simp [draw, drawList, availAfter, pulled, sumPulls]

end NS
