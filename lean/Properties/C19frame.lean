/-
  Properties/C19frame.lean — the wire format of the language server
  (internal/lsp/server.go): what `encodeMessage` writes, `MessageBuffer.Read`
  reads back exactly, whatever bytes the bodies contain (header look-alikes,
  CR/LF, non-ASCII), message after message; so a client that frames its requests
  the same way sees, in order, exactly the messages the handler produced.
-/
import Proofs.FrameLemmas

namespace NS

/-- one message: the reader returns the body and leaves the following bytes untouched.
    (`2^63`: `strconv.ParseInt(_, 10, 0)` rejects larger lengths.) -/
theorem frame_roundtrip (body rest : Bytes) (h : body.length < 2^63) :
    readFrame (encodeFrame body ++ rest) = .ok body rest := by
  have e : encodeFrame body ++ rest
      = contentLengthPrefix ++ natBytes body.length ++ [CR, LF, CR, LF] ++ (body ++ rest) := by
    simp [encodeFrame]
  have hk : isContentLengthKey (strBytes "Content-Length") = true := by decide
  rw [readFrame, e, fr_readHeaders_encode _ _ _ (by simp only [List.length_append, List.length_cons]; omega)
    (fr_natBytes_ne_nil _)
    (List.all_eq_true.mp (fr_natBytes_all_digit _))]
  simp only [List.find?_cons, hk, fr_parseLength_natBytes _ h, Int.toNat_natCast,
    List.take_left', List.drop_left']
  rw [if_neg (by omega), if_neg (by simp)]

/-- a whole stream: all the messages, in order, then end of input -/
theorem frames_roundtrip (bodies : List Bytes) (h : ∀ b ∈ bodies, b.length < 2^63) :
    readFrames (bodies.length + 1) (bodies.flatMap encodeFrame) = some bodies := by
  induction bodies with
  | nil => rfl
  | cons b t ih =>
    rw [List.forall_mem_cons] at h
    rw [List.flatMap_cons, List.length_cons, readFrames, frame_roundtrip b _ h.1]
    simp only [ih h.2, Option.map_some]

/-- the reader never invents, drops or reorders bytes: a successful read splits the input into
    a header block, the body and the rest -/
theorem readFrame_ok_splits (input body rest : Bytes) (h : readFrame input = .ok body rest) :
    ∃ hdr, input = hdr ++ body ++ rest ∧ hdr ≠ [] := by
  unfold readFrame at h
  -- the only `.ok` is the last branch, which cuts the body off what the header block left
  repeat' split at h
  all_goals try cases h
  obtain ⟨hdr, hp, hne⟩ := fr_readHeaders_splits _ _ _ _ _ ‹_›
  exact ⟨hdr, by rw [List.append_assoc, List.take_append_drop]; exact hp, hne⟩

/-- the length announced is the number of BYTES of the body: the frame of a body is
    `Content-Length: <decimal length>\r\n\r\n<body>` -/
theorem encodeFrame_shape (body : Bytes) :
    encodeFrame body = strBytes "Content-Length: " ++ natBytes body.length ++ [CR, LF, CR, LF] ++ body := rfl

/-- the bytes written are exactly the frames of the handler's messages, nothing before, between or after -/
theorem server_output_exact {σ : Type} (handler : σ → Bytes → Handled σ) (s : σ) (reqs : List Bytes)
    (hreq : ∀ b ∈ reqs, b.length < 2^63) :
    serverRun handler (reqs.length + 1) s (reqs.flatMap encodeFrame)
      = some ((serverSpec handler s reqs).flatMap encodeFrame) := by
  induction reqs generalizing s with
  | nil => rfl
  | cons b t ih =>
    rw [List.forall_mem_cons] at hreq
    rw [List.flatMap_cons, List.length_cons, serverRun, frame_roundtrip b _ hreq.1]
    simp [ih _ hreq.2, serverSpec]

/-- the request/response loop over the wire: for every handler, every state and every list of
    request bodies, the bytes written decode to exactly the handler's messages — per request its
    notifications, then its response — in request order. -/
theorem server_wire {σ : Type} (handler : σ → Bytes → Handled σ) (s : σ) (reqs : List Bytes)
    (hreq : ∀ b ∈ reqs, b.length < 2^63)
    (hout : ∀ b ∈ serverSpec handler s reqs, b.length < 2^63) :
    ∃ out, serverRun handler (reqs.length + 1) s (reqs.flatMap encodeFrame) = some out ∧
      readFrames ((serverSpec handler s reqs).length + 1) out = some (serverSpec handler s reqs) :=
  ⟨_, server_output_exact handler s reqs hreq, frames_roundtrip _ hout⟩

/-! non-vacuity (tests) -/
example : readFrame (encodeFrame (strBytes "{\"a\":\"é\"}") ++ strBytes "xyz")
    = .ok (strBytes "{\"a\":\"é\"}") (strBytes "xyz") := by decide
example : readFrame (strBytes "content-length:  2 \r\nX-Y: z\n\nabc") = .ok (strBytes "ab") (strBytes "c") := by decide
example : readFrame (strBytes "Content-Length: 5\r\n\r\nab") = .error .unexpectedEOF := by decide
example : readFrame (strBytes "Content-Length : 2\r\n\r\nab") = .error .badLength := by decide
example : readFrame (strBytes "Content-Length: 2\r\n") = .eof := by decide

end NS
