/-
  Properties/C20.lean — exit status of the command-line front end.
  `cliExitTable` is regenerated from internal/cmd/*.go on every run (Model/Tables.lean); the two table
  theorems say of every `os.Exit` in those files that it is conditional and passes the literal 1, which
  survives the 8-bit truncation of exit statuses.  The other theorems are about the model `cliCheckExit`
  of the one exit of `check`.
-/
import Model.Cli

namespace NS

/-- `check` exits non-zero exactly when some diagnostic has error severity -/
theorem check_exit_iff_error (ds : List Diag) : errorCount ds ≠ 0 ↔ ∃ d ∈ ds, d.kind.severity = 1 := by
  simp [errorCount, List.filter_eq_nil_iff]

/-- every `os.Exit` of the CLI passes the literal 1 (never a computed value that could be ≡ 0 mod 256) -/
theorem cli_exit_args_literal_one : ∀ e ∈ cliExitTable, e.2.2 = "1" := by
  simp [cliExitTable]

/-- every exit site of the CLI is conditional (reached under an `if`, or after an early `return`): no command exits
    non-zero unconditionally.  Which condition guards the exit of `check` — the error count — is not read off the
    source text: `check_exit_byte_iff_error` states it of the model. -/
theorem cli_exits_all_conditional : ∀ e ∈ cliExitTable, (e.2.1 != "") = true := by
  simp [cliExitTable]

/-- the status observed by the parent process is non-zero exactly when some diagnostic has error severity -/
theorem check_exit_byte_iff_error (ds : List Diag) :
    exitByte (cliCheckExit ds) ≠ 0 ↔ ∃ d ∈ ds, d.kind.severity = 1 := by
  rw [← check_exit_iff_error]
  unfold exitByte cliCheckExit
  split <;> simp_all

/-- non-vacuity (test): 256 error diagnostics still give a non-zero status -/
example : exitByte (cliCheckExit (List.replicate 256 ⟨Range.zero, .unboundVariable "x"⟩)) = 1 := by
  have h : errorCount (List.replicate 256 (⟨Range.zero, .unboundVariable "x"⟩ : Diag)) ≠ 0 := by
    rw [check_exit_iff_error]
    exact ⟨⟨Range.zero, .unboundVariable "x"⟩, List.mem_replicate.mpr ⟨by omega, rfl⟩, by decide⟩
  unfold exitByte cliCheckExit
  rw [if_pos h]

end NS
