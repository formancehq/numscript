/-
  Properties/C19wire.lean — the two halves of C19 joined: the document-store state machine (`lspRun`,
  Model/Lsp.lean) served through the wire format (Model/Frame.lean).  JSON is not modelled: `decode` turns a request
  body into a request and `marshal` a response into the messages written for it (its notifications, then the
  response itself); both are parameters.  For every such pair, every state and every list of request bodies that
  decode, the bytes the server writes are exactly the frames of the marshalled responses of `lspRun`, in request
  order — so whatever is proved of `lspRun` (latest text, right document, pure queries) is what a client reads.
-/
import Model.Lsp
import Properties.C19frame

namespace NS

/-- what the server writes for one response: notifications first, the response last -/
structure Marshalled where
  notifications : List Bytes
  response : Bytes

/-- the handler `RunServer` is given, built from one step of the document store -/
def wireHandler (decode : Bytes → Req) (marshal : Resp → Marshalled) (s : LspState) (body : Bytes) : Handled LspState :=
  match lspStep s (decode body) with
  | .ok (s', resp) => ⟨s', (marshal resp).notifications, (marshal resp).response⟩
  | _ => ⟨s, [], []⟩           -- a panic of the analysis ends the real process: excluded by the hypothesis below

def messagesOf (marshal : Resp → Marshalled) : List Resp → List Bytes
  | [] => []
  | r :: rs => (marshal r).notifications ++ [(marshal r).response] ++ messagesOf marshal rs

theorem serverSpec_eq_lspRun (decode : Bytes → Req) (marshal : Resp → Marshalled) (s s' : LspState)
    (bodies : List Bytes) (resps : List Resp)
    (h : lspRun s (bodies.map decode) = .ok (s', resps)) :
    serverSpec (wireHandler decode marshal) s bodies = messagesOf marshal resps := by
  induction bodies generalizing s resps with
  | nil => cases h; rfl
  | cons b bs ih =>
    rw [List.map_cons, lspRun] at h
    split at h <;> try cases h
    rename_i s1 resp hstep
    split at h <;> cases h
    rename_i rs hrun
    simp only [serverSpec, wireHandler, hstep, messagesOf, ih s1 rs hrun]

/-- over the wire a client reads exactly the responses of the document-store state machine, in order -/
theorem lsp_over_the_wire (decode : Bytes → Req) (marshal : Resp → Marshalled) (s s' : LspState)
    (bodies : List Bytes) (resps : List Resp)
    (hrun : lspRun s (bodies.map decode) = .ok (s', resps))
    (hreq : ∀ b ∈ bodies, b.length < 2^63) :
    serverRun (wireHandler decode marshal) (bodies.length + 1) s (bodies.flatMap encodeFrame)
      = some ((messagesOf marshal resps).flatMap encodeFrame) := by
  rw [server_output_exact (wireHandler decode marshal) s bodies hreq,
      serverSpec_eq_lspRun decode marshal s s' bodies resps hrun]

end NS
