/-
  Properties/C010203.lean — script-level theorems:
    C01 no unauthorized overdraft, C02 every posting is a real transfer,
    C03 a fixed-amount send moves exactly that amount or the script fails.
  They are proved about `runStatements` (the statement loop of `RunProgram`)
  for every list of statements, every variable environment with portions in
  [0,1] (what `parseVar` guarantees: `parseVars_wf`) and every starting cache;
  `RunProgram_ok_runs` connects them to `RunProgram`.
-/
import Spec.ProgramSpec
import Properties.Statement
import Properties.C0809
import Proofs.AllotLemmas
import Proofs.DistributeLemmas
import Proofs.DrawLemmas
import Proofs.ProgramLemmas

namespace NS

/-- a successful `RunProgram` is a successful statement loop from the cache filled by the preload -/
theorem RunProgram_ok_runs (prog : Program) (rawVars : List (String × String)) (store : Store) (flag : Bool)
    (res : ExecResult) (h : RunProgram prog rawVars store flag = .ok res) :
    ∃ vars cache0 st, runStatements vars prog.stmts ⟨cache0, [], []⟩ = .ok (res.postings, st) ∧
      res.txMeta = st.txMeta ∧ res.accMeta = st.accMeta ∧
      (∃ q, parseVars store flag rawVars prog.vars [] ⟨[], [], 0, []⟩ = .ok (vars, q)) := by
  unfold RunProgram at h
  split at h <;> try cases h
  split at h <;> try cases h
  split at h <;> try cases h
  split at h <;> cases h
  exact ⟨_, _, _, ‹_›, rfl, rfl, _, ‹_›⟩

/-- variables read by `parseVars` satisfy `VarsWF` (portions are validated to lie in [0,1]) -/
theorem parseVars_wf (store : Store) (flag : Bool) (rawVars : List (String × String)) (decls : List VarDecl)
    (vars0 vars : Vars) (q0 q : QState) (h0 : VarsWF vars0)
    (h : parseVars store flag rawVars decls vars0 q0 = .ok (vars, q)) : VarsWF vars := by
  induction decls generalizing vars0 q0 with
  | nil =>
    cases h
    exact h0
  | cons d rest ih =>
    rw [parseVars] at h
    split at h <;> try cases h
    rename_i name _ ty _ _
    split at h
    · split at h <;> try cases h
      split at h <;> try cases h
      rename_i v hv
      exact ih _ q0 (pg_VarsWF_cons name v vars0 h0 (pg_parseVar_portion _ _ _ hv)) h
    · split at h <;> try cases h
      rename_i v q' hv
      exact ih _ q' (pg_VarsWF_cons name v vars0 h0 (pg_handleOrigin_portion _ _ _ _ _ _ _ _ hv)) h

/-! ### portions of resolved sources and destinations are non-negative -/

mutual
private theorem pg_resolveS_pn (vars : Vars) (asset : String) (hw : VarsWF vars) :
    ∀ (src : Source) (r : RSource), resolveS vars asset src = .ok r → PortionsNonnegS r
  | .nil, r, hr => by
      cases hr
  | .account e, r, hr => by
      obtain ⟨a, -, rfl⟩ := resolveS_account_ok hr
      split <;> exact trivial
  | .overdraft _ addr none, r, hr => by
      obtain ⟨a, -, rfl⟩ := resolveS_overdraft_none_ok hr
      exact trivial
  | .overdraft _ addr (some b), r, hr => by
      obtain ⟨od, a, -, -, rfl⟩ := resolveS_overdraft_some_ok hr
      split <;> exact trivial
  | .inorder _ srcs, r, hr => by
      obtain ⟨rs, hrs, rfl⟩ := resolveS_inorder_ok hr
      exact pg_resolveSList_pn vars asset hw srcs rs hrs
  | .capped _ cap src, r, hr => by
      obtain ⟨c, r', -, hr', rfl⟩ := resolveS_capped_ok hr
      rw [PortionsNonnegS]
      exact pg_resolveS_pn vars asset hw src r' hr'
  | .allotment _ items, r, hr => by
      obtain ⟨qs, subs, hqs, hsubs, rfl⟩ := resolveS_allotment_ok hr
      exact ⟨pg_evalAllotItems_nonneg vars hw _ qs hqs, pg_resolveSItems_pn vars asset hw items subs hsubs⟩

private theorem pg_resolveSList_pn (vars : Vars) (asset : String) (hw : VarsWF vars) :
    ∀ (srcs : List Source) (rs : List RSource), resolveSList vars asset srcs = .ok rs → PortionsNonnegSs rs
  | [], rs, hr => by
      cases hr
      exact trivial
  | s :: ss, rs, hr => by
      obtain ⟨r, rs', h1, h2, rfl⟩ := resolveSList_cons_ok hr
      exact ⟨pg_resolveS_pn vars asset hw s r h1, pg_resolveSList_pn vars asset hw ss rs' h2⟩

private theorem pg_resolveSItems_pn (vars : Vars) (asset : String) (hw : VarsWF vars) :
    ∀ (items : List SrcItem) (rs : List RSource), resolveSItems vars asset items = .ok rs → PortionsNonnegSs rs
  | [], rs, hr => by
      cases hr
      exact trivial
  | (.mk _ _ src) :: rest, rs, hr => by
      obtain ⟨r, rs', h1, h2, rfl⟩ := resolveSItems_cons_ok hr
      exact ⟨pg_resolveS_pn vars asset hw src r h1, pg_resolveSItems_pn vars asset hw rest rs' h2⟩
end

mutual
private theorem pg_resolveD_pn (vars : Vars) (asset : String) (hw : VarsWF vars) :
    ∀ (dst : Dest) (r : RDest), resolveD vars asset dst = .ok r → PortionsNonnegD r
  | .nil, r, hr => by
      cases hr
  | .account e, r, hr => by
      rw [resolveD] at hr
      split at hr <;> cases hr
      exact trivial
  | .inorder _ clauses remaining, r, hr => by
      obtain ⟨caps, tos, rest, hcl, hrest, rfl⟩ := resolveD_inorder_ok hr
      exact ⟨pg_resolveClauses_pn vars asset hw clauses caps tos hcl,
        pg_resolveKoD_pn vars asset hw remaining rest hrest⟩
  | .allotment _ items, r, hr => by
      obtain ⟨qs, tos, hqs, htos, rfl⟩ := resolveD_allotment_ok hr
      refine ⟨pg_evalAllotItems_nonneg vars hw _ qs hqs, ?_, pg_resolveDItems_pn vars asset hw items tos htos⟩
      rw [evalAllotItems_length _ _ _ hqs, resolveDItems_length _ _ _ _ htos, List.length_map]

private theorem pg_resolveKoD_pn (vars : Vars) (asset : String) (hw : VarsWF vars) :
    ∀ (k : KoD) (r : RKoD), resolveKoD vars asset k = .ok r → PortionsNonnegK r
  | .nil, r, hr => by
      cases hr
  | .kept _, r, hr => by
      cases hr
      exact trivial
  | .to d, r, hr => by
      rw [resolveKoD] at hr
      split at hr <;> cases hr
      exact pg_resolveD_pn vars asset hw d _ ‹_›

private theorem pg_resolveClauses_pn (vars : Vars) (asset : String) (hw : VarsWF vars) :
    ∀ (cl : List DestClause) (caps : List Int) (tos : List RKoD),
      resolveClauses vars asset cl = .ok (caps, tos) → PortionsNonnegKs tos
  | [], caps, tos, hr => by
      cases hr
      exact trivial
  | (.mk _ cap kd) :: rest, caps, tos, hr => by
      obtain ⟨c, t, cs, ts, -, ht, hts, -, rfl⟩ := resolveClauses_cons_ok hr
      exact ⟨pg_resolveKoD_pn vars asset hw kd t ht, pg_resolveClauses_pn vars asset hw rest cs ts hts⟩

private theorem pg_resolveDItems_pn (vars : Vars) (asset : String) (hw : VarsWF vars) :
    ∀ (items : List DestItem) (tos : List RKoD), resolveDItems vars asset items = .ok tos → PortionsNonnegKs tos
  | [], tos, hr => by
      cases hr
      exact trivial
  | (.mk _ _ kd) :: rest, tos, hr => by
      obtain ⟨t, ts, ht, hts, rfl⟩ := resolveDItems_cons_ok hr
      exact ⟨pg_resolveKoD_pn vars asset hw kd t ht, pg_resolveDItems_pn vars asset hw rest ts hts⟩
end

private theorem pg_runSend_fixed_ok {vars : Vars} {st st' : RState} {r : Range} {m : Expr} {src : Source}
    {dst : Dest} {asset : String} {n : Int} {rs : RSource} {rd : RDest} {ps : List Posting}
    (hm : evalAs vars m expectMonetary = .ok (asset, n))
    (hs : resolveS vars asset src = .ok rs) (hd : resolveD vars asset dst = .ok rd)
    (h : runSendStatement vars st (.lit r m) src dst = .ok (ps, st')) :
    specSend asset n rs rd (availOfCache st.cache asset) = .ok ps ∧
      st'.cache = applyPostings st.cache ps := by
  rw [runSend_fixed_refines vars st r m src dst asset n rs rd hm hs hd] at h
  split at h <;> cases h
  exact ⟨‹_›, rfl⟩

/-- A successful statement is either a send statement, whose postings are those of the reference
    semantics on its resolved trees (real transfers, debits of every prefix bounded) and are applied
    to the cache, or it produces no posting and does not raise any visible balance. -/
private theorem pg_runStatement_cases (vars : Vars) (s : Statement) (st st' : RState) (ps : List Posting)
    (hw : VarsWF vars) (hres : SendsResolve vars [s]) (h : runStatement vars st s = .ok (ps, st')) :
    (∃ asset rs rd, stmtSend vars s = some (asset, rs, rd) ∧ st'.cache = applyPostings st.cache ps ∧
      (∀ p ∈ ps, 0 < p.amount ∧ p.asset = asset ∧ p.destination ≠ KEPT_ADDR ∧
        p.source ∈ accountsOfS rs ∧ p.destination ∈ accountsOfD rd) ∧
      (∀ a k, unbIn a rs = false →
        debitsOf (ps.take k) a ≤ max 0 (availOfCache st.cache asset a + maxGrant (grantsOf a rs)) ∧
          0 ≤ creditsOf (ps.take k) a)) ∨
    (stmtSend vars s = none ∧ ps = [] ∧ ∀ a c, cacheGet st'.cache a c ≤ cacheGet st.cache a c) := by
  cases s with
  | nil => cases h
  | fnCallNil => cases h
  | send r sv src dst =>
    left
    obtain ⟨⟨asset, rs, rd⟩, hss⟩ :=
      Option.isSome_iff_exists.1 (hres _ (List.mem_singleton.2 rfl) ⟨r, sv, src, dst, rfl⟩)
    refine ⟨asset, rs, rd, hss, ?_⟩
    rw [runStatement] at h
    cases sv with
    | nil => cases hss
    | lit r' m =>
      rw [stmtSend] at hss
      split at hss <;> try cases hss
      split at hss <;> cases hss
      rename_i hm hs hd
      have hps := pg_resolveS_pn vars asset hw src rs hs
      have hpd := pg_resolveD_pn vars asset hw dst rd hd
      obtain ⟨hsp, hc⟩ := pg_runSend_fixed_ok hm hs hd h
      exact ⟨hc, specSend_postings_real asset _ rs rd _ ps hps hpd hsp,
        fun a k hu => specSend_debits_bound asset _ rs rd (availOfCache st.cache asset) ps a k hps hpd hu hsp⟩
    | all r' a =>
      rw [stmtSend] at hss
      split at hss <;> try cases hss
      split at hss <;> cases hss
      rename_i ha hs hd
      have hps := pg_resolveS_pn vars asset hw src rs hs
      have hpd := pg_resolveD_pn vars asset hw dst rd hd
      rw [runSend_all_refines vars st r' a src dst asset rs rd ha hs hd] at h
      split at h <;> cases h
      rename_i hsp
      exact ⟨rfl, specSendAll_postings_real asset rs rd _ ps hps hpd hsp,
        fun a k hu => specSendAll_debits_bound asset rs rd (availOfCache st.cache asset) ps a k hps hpd hu hsp⟩
  | save r sv amount =>
    right
    rw [runStatement] at h
    cases hsv : evaluateSentAmt vars sv with
    | ok x =>
      obtain ⟨asset, amt⟩ := x
      cases hacc : evalAs vars amount expectAccount with
      | ok x =>
        obtain ⟨rfl, _, _, hc⟩ := save_visible_balance vars st st' sv amount ps asset x amt hsv hacc h
        refine ⟨rfl, rfl, fun a c => ?_⟩
        rw [hc]
        split
        · rename_i hac
          refine hac.1 ▸ hac.2 ▸ (savedBalance_spec _ amt fun n hn => Int.not_lt.1 fun hlt => ?_).2.2.2.1
          rw [save_negative_rejected vars st sv amount asset x n (hn ▸ hsv) hacc hlt] at h
          cases h
        · exact le_refl _
      | _ => simp [runSaveStatement, hsv, hacc] at h
    | _ => simp [runSaveStatement, hsv] at h
  | fnCall fn =>
    right
    refine ⟨rfl, ?_⟩
    rw [runStatement] at h
    split at h <;> try cases h
    split at h
    · split at h <;> cases h
      exact ⟨rfl, fun a c => le_refl _⟩
    split at h <;> try cases h
    split at h <;> cases h
    exact ⟨rfl, fun a c => le_refl _⟩

/-! ### C02 -/

/-- every posting of a successful run has a strictly positive amount, is never credited to the
    kept marker, names a source account of some send statement and a destination account of some
    send statement, in the asset of a send statement -/
theorem postings_are_real (vars : Vars) (stmts : List Statement) (st0 st : RState) (ps : List Posting)
    (hw : VarsWF vars) (hres : SendsResolve vars stmts)
    (h : runStatements vars stmts st0 = .ok (ps, st)) :
    ∀ p ∈ ps, 0 < p.amount ∧ p.destination ≠ KEPT_ADDR ∧ p.source ∈ sourceAccounts vars stmts ∧
      p.destination ∈ destAccounts vars stmts ∧ p.asset ∈ sendAssets vars stmts := by
  induction stmts generalizing st0 ps with
  | nil =>
    cases h
    nofun
  | cons s ss ih =>
    obtain ⟨p1, st1, p2, h1, h2, rfl⟩ := pg_run_cons h
    intro p hp
    rcases List.mem_append.mp hp with hp | hp
    · rcases pg_runStatement_cases vars s st0 st1 p1 hw (pg_SendsResolve_head vars s ss hres) h1 with
        ⟨asset, rs, rd, hss, _, hreal, _⟩ | ⟨_, rfl, _⟩
      · obtain ⟨a1, a2, a3, a4, a5⟩ := hreal p hp
        simp only [sourceAccounts, destAccounts, sendAssets, hss]
        exact ⟨a1, a3, List.mem_append_left _ a4, List.mem_append_left _ a5,
          List.mem_append_left _ (List.mem_singleton.2 a2)⟩
      · cases hp
    · obtain ⟨a1, a3, a4, a5, a6⟩ := ih st1 p2 (pg_SendsResolve_tail vars s ss hres) h2 p hp
      rw [sourceAccounts, destAccounts, sendAssets]
      exact ⟨a1, a3, List.mem_append_right _ a4, List.mem_append_right _ a5, List.mem_append_right _ a6⟩

/-- real account names are never empty nor the kept marker -/
theorem validAccountName_real (a : String) (h : validAccountName a = true) : a ≠ "" ∧ a ≠ KEPT_ADDR := by
  constructor
  · rintro rfl
    revert h
    decide
  · rintro rfl
    revert h
    decide

/-- only send statements produce postings, in their own asset -/
theorem statement_postings_asset (vars : Vars) (s : Statement) (st st' : RState) (ps : List Posting)
    (hw : VarsWF vars) (hres : SendsResolve vars [s]) (h : runStatement vars st s = .ok (ps, st')) :
    (ps = [] ∨ ∃ asset rs rd, stmtSend vars s = some (asset, rs, rd) ∧ ∀ p ∈ ps, p.asset = asset) := by
  rcases pg_runStatement_cases vars s st st' ps hw hres h with
    ⟨asset, rs, rd, hss, _, hreal, _⟩ | ⟨_, rfl, _⟩
  · exact .inr ⟨asset, rs, rd, hss, fun p hp => (hreal p hp).2.1⟩
  · exact .inl rfl

/-! ### C03 -/

/-- the ranges of the statement and of its sent value play no part -/
theorem send_lit_exact (vars : Vars) (pre post : List Statement) (r r' : Range) (m : Expr) (src : Source) (dst : Dest)
    (st0 st : RState) (ps : List Posting) (asset : String) (n : Int) (rs : RSource) (rd : RDest)
    (hw : VarsWF vars)
    (hm : evalAs vars m expectMonetary = .ok (asset, n))
    (hs : resolveS vars asset src = .ok rs) (hd : resolveD vars asset dst = .ok rd)
    (h : runStatements vars (pre ++ [.send r (.lit r' m) src dst] ++ post) st0 = .ok (ps, st)) :
    ∃ p1 pk p2 d, ps = p1 ++ pk ++ p2 ∧ distribute rd n = .ok d ∧ sumAmounts pk = n - keptOf d ∧
      (∃ st1, runStatements vars pre st0 = .ok (p1, st1)) := by
  obtain ⟨p12, st2, p3, h12, _, rfl⟩ := pg_run_append h
  obtain ⟨p1, st1, p2, h1, h2, rfl⟩ := pg_run_append h12
  obtain ⟨pk, _, _, hk, hnil, rfl⟩ := pg_run_cons h2
  cases hnil
  rw [runStatement] at hk
  obtain ⟨d, hd1, hd2⟩ := specSend_total asset n rs rd _ pk
    (pg_resolveS_pn vars asset hw src rs hs) (pg_resolveD_pn vars asset hw dst rd hd)
    (resolveS_allotLenOk vars asset src rs hs) (pg_runSend_fixed_ok hm hs hd hk).1
  exact ⟨p1, pk, p3, d, by rw [List.append_nil], hd1, hd2, st1, h1⟩

/-- the postings of a fixed-amount send statement, wherever it stands in the script, add up to the
    amount minus what its destination keeps -/
theorem fixed_send_exact (vars : Vars) (pre post : List Statement) (r : Range) (m : Expr) (src : Source) (dst : Dest)
    (st0 st : RState) (ps : List Posting) (asset : String) (n : Int) (rs : RSource) (rd : RDest)
    (hw : VarsWF vars)
    (hm : evalAs vars m expectMonetary = .ok (asset, n))
    (hs : resolveS vars asset src = .ok rs) (hd : resolveD vars asset dst = .ok rd)
    (h : runStatements vars (pre ++ [.send r (.lit r m) src dst] ++ post) st0 = .ok (ps, st)) :
    ∃ p1 pk p2 d, ps = p1 ++ pk ++ p2 ∧ distribute rd n = .ok d ∧ sumAmounts pk = n - keptOf d ∧
      (∃ st1, runStatements vars pre st0 = .ok (p1, st1)) :=
  send_lit_exact vars pre post r r m src dst st0 st ps asset n rs rd hw hm hs hd h

/-- a fixed-amount send fails with `e` exactly when the amount is negative, the draw fails with
    `e`, the sources give less than `n` (reported as missing funds), or the distribution fails
    with `e` -/
theorem fixed_send_fails_iff_short (vars : Vars) (st : RState) (r : Range) (m : Expr) (src : Source) (dst : Dest)
    (asset : String) (n : Int) (rs : RSource) (rd : RDest) (e : Err)
    (hm : evalAs vars m expectMonetary = .ok (asset, n))
    (hs : resolveS vars asset src = .ok rs) (hd : resolveD vars asset dst = .ok rd) :
    runSendStatement vars st (.lit r m) src dst = .err e ↔
      (n < 0 ∧ e = .negativeAmount n) ∨
      (0 ≤ n ∧ draw asset rs (availOfCache st.cache asset) n = .err e) ∨
      (0 ≤ n ∧ ∃ l, draw asset rs (availOfCache st.cache asset) n = .ok l ∧ sumPulls l ≠ n ∧
          e = .missingFunds asset n (sumPulls l)) ∨
      (0 ≤ n ∧ ∃ l, draw asset rs (availOfCache st.cache asset) n = .ok l ∧ sumPulls l = n ∧ distribute rd n = .err e) := by
  rw [runSend_fixed_refines vars st r m src dst asset n rs rd hm hs hd,
    ← specSend_fails_iff asset n rs rd (availOfCache st.cache asset) e]
  cases specSend asset n rs rd (availOfCache st.cache asset) <;> simp

/-- a send of zero succeeds with no posting -/
theorem send_zero (vars : Vars) (st : RState) (r : Range) (m : Expr) (src : Source) (dst : Dest)
    (asset : String) (rs : RSource) (rd : RDest) (d : Pulls) (hw : VarsWF vars)
    (hm : evalAs vars m expectMonetary = .ok (asset, 0))
    (hs : resolveS vars asset src = .ok rs) (hd : resolveD vars asset dst = .ok rd)
    (hdist : distribute rd 0 = .ok d) (hdraw : ∃ l, draw asset rs (availOfCache st.cache asset) 0 = .ok l) :
    ∃ st', runSendStatement vars st (.lit r m) src dst = .ok ([], st') := by
  rw [runSend_fixed_refines vars st r m src dst asset 0 rs rd hm hs hd,
    specSend_zero asset rs rd (availOfCache st.cache asset) d hdist
      (pg_resolveD_pn vars asset hw dst rd hd) hdraw]
  exact ⟨_, rfl⟩

/-! ### C01 -/

/-- one statement, in each asset `c`: no prefix of its postings debits an account that is not an
    unbounded source beyond its visible balance plus the largest overdraft the statement grants
    it, and every prefix credits it a non-negative amount -/
theorem statement_debits_bound (vars : Vars) (s : Statement) (st st' : RState) (ps : List Posting)
    (hw : VarsWF vars) (hres : SendsResolve vars [s]) (h : runStatement vars st s = .ok (ps, st'))
    (a c : String) (hu : unbInStmts vars [s] a c = false) (k : Nat) :
    debitsOf ((ps.take k).filter (fun p => p.asset = c)) a ≤
        max 0 (cacheGet st.cache a c + maxGrant (grantsOfStmts vars [s] a c)) ∧
    0 ≤ creditsOf ((ps.take k).filter (fun p => p.asset = c)) a := by
  have hnil : debitsOf [] a ≤ max 0 (cacheGet st.cache a c + maxGrant (grantsOfStmts vars [s] a c)) ∧
      0 ≤ creditsOf [] a := ⟨Int.le_max_left 0 _, le_refl 0⟩
  rcases pg_runStatement_cases vars s st st' ps hw hres h with
    ⟨asset, rs, rd, hss, _, hreal, hbound⟩ | ⟨_, rfl, _⟩
  · have hasset : ∀ p ∈ ps.take k, p.asset = asset := fun p hp => (hreal p (List.mem_of_mem_take hp)).2.1
    by_cases hac : asset = c
    · subst hac
      rw [pg_unbInStmts_single_some vars s a asset asset rs rd hss, decide_eq_true rfl, Bool.true_and] at hu
      rw [List.filter_eq_self.2 fun p hp => decide_eq_true (hasset p hp),
        pg_grantsOfStmts_single_some vars s a asset asset rs rd hss, if_pos rfl]
      exact hbound a k hu
    · rwa [List.filter_eq_nil_iff.2 fun p hp e => hac (hasset p hp ▸ of_decide_eq_true e)]
  · rwa [List.take_nil, List.filter_nil]

/-- one statement, on the net effect of its postings on `(a, c)`: the visible balance moves with the
    postings (or is lowered), and no prefix takes more than the visible balance plus the largest grant -/
private theorem pg_stmt_net (vars : Vars) (s : Statement) (st st' : RState) (ps : List Posting)
    (hw : VarsWF vars) (hres : SendsResolve vars [s]) (h : runStatement vars st s = .ok (ps, st'))
    (a c : String) :
    cacheGet st'.cache a c ≤ cacheGet st.cache a c + pg_net ps a c ∧
    (unbInStmts vars [s] a c = false → ∀ k,
      min 0 (- cacheGet st.cache a c - maxGrant (grantsOfStmts vars [s] a c)) ≤ pg_net (ps.take k) a c) := by
  constructor
  · rcases pg_runStatement_cases vars s st st' ps hw hres h with
      ⟨_, _, _, _, hcache, _, _⟩ | ⟨_, rfl, hle⟩
    · rw [hcache]
      change balOfCache (applyPostings st.cache ps) a c ≤ balOfCache st.cache a c + _
      rw [cache_tracks_replay, pg_replay_shift]
    · rw [pg_net_nil, Int.add_zero]
      exact hle a c
  · intro hu k
    obtain ⟨h1, h2⟩ := statement_debits_bound vars s st st' ps hw hres h a c hu k
    rw [le_max_iff] at h1
    rw [pg_net, min_le_iff]
    omega

/-- the loop invariant of `visible_le_true`, on one account and asset, for any true balance `B`
    at or above the visible one -/
private theorem pg_visible_le (vars : Vars) (hw : VarsWF vars) (a c : String) (stmts : List Statement)
    (st0 st : RState) (ps : List Posting) (B : Int) (hres : SendsResolve vars stmts)
    (h : runStatements vars stmts st0 = .ok (ps, st)) (hB : cacheGet st0.cache a c ≤ B) :
    cacheGet st.cache a c ≤ B + pg_net ps a c := by
  induction stmts generalizing st0 ps B with
  | nil =>
    cases h
    rw [pg_net_nil, Int.add_zero]
    exact hB
  | cons s ss ih =>
    obtain ⟨p1, st1, p2, h1, h2, rfl⟩ := pg_run_cons h
    have hs := (pg_stmt_net vars s st0 st1 p1 hw (pg_SendsResolve_head vars s ss hres) h1 a c).1
    rw [pg_net_append, ← Int.add_assoc]
    exact ih st1 p2 (B + pg_net p1 a c) (pg_SendsResolve_tail vars s ss hres) h2
      (hs.trans (Int.add_le_add_right hB _))

/-- the loop invariant of C01 -/
private theorem pg_floor (vars : Vars) (hw : VarsWF vars) (a c : String) (stmts : List Statement)
    (st0 st : RState) (ps : List Posting) (B : Int) (hres : SendsResolve vars stmts)
    (h : runStatements vars stmts st0 = .ok (ps, st)) (hu : unbInStmts vars stmts a c = false)
    (hB : cacheGet st0.cache a c ≤ B) (k : Nat) :
    min B (- maxGrant (grantsOfStmts vars stmts a c)) ≤ B + pg_net (ps.take k) a c := by
  induction stmts generalizing st0 ps B k with
  | nil =>
    cases h
    rw [List.take_nil, pg_net_nil, Int.add_zero]
    exact min_le_left _ _
  | cons s ss ih =>
    obtain ⟨p1, st1, p2, h1, h2, rfl⟩ := pg_run_cons h
    rw [pg_unbInStmts_cons, Bool.or_eq_false_iff] at hu
    obtain ⟨hv, hn⟩ := pg_stmt_net vars s st0 st1 p1 hw (pg_SendsResolve_head vars s ss hres) h1 a c
    rw [pg_grantsOfStmts_cons, maxGrant_append, List.take_append, pg_net_append]
    refine pg_floor_step hB (hn hu.1 k) ?_
    by_cases hk : k ≤ p1.length
    · rw [Nat.sub_eq_zero_of_le hk, List.take_zero, pg_net_nil, Int.add_zero]
      exact min_le_left _ _
    · rw [List.take_of_length_le (Nat.le_of_not_le hk)]
      exact ih st1 p2 (B + pg_net p1 a c) (pg_SendsResolve_tail vars s ss hres) h2 hu.2
        (hv.trans (Int.add_le_add_right hB _)) (k - p1.length)

/-- the visible balance (cache) never exceeds the true balance: saves only lower it, postings move both -/
theorem visible_le_true (vars : Vars) (stmts : List Statement) (st0 st : RState) (ps : List Posting)
    (hw : VarsWF vars) (hres : SendsResolve vars stmts)
    (h : runStatements vars stmts st0 = .ok (ps, st)) (a c : String) :
    cacheGet st.cache a c ≤ replay (balOfCache st0.cache) ps a c := by
  rw [pg_replay_shift]
  exact pg_visible_le vars hw a c stmts st0 st ps _ hres h (le_refl _)

/-- C01: replaying the postings of a successful run, in order, on the starting balances never
    drives an account below the lower of its starting balance and minus the largest overdraft the
    script explicitly grants it — unless the script names it as an unbounded source (`@world`,
    `allowing unbounded overdraft`).  Holds for repeated accounts, accounts reached through
    variables, negative starting balances, and across statements. -/
theorem no_unauthorized_overdraft (vars : Vars) (stmts : List Statement) (st0 st : RState) (ps : List Posting)
    (hw : VarsWF vars) (hres : SendsResolve vars stmts)
    (h : runStatements vars stmts st0 = .ok (ps, st))
    (a c : String) (hu : unbInStmts vars stmts a c = false) (k : Nat) :
    overdraftFloor (balOfCache st0.cache) vars stmts a c ≤ replayN (balOfCache st0.cache) ps k a c := by
  unfold overdraftFloor replayN
  rw [pg_replay_shift]
  exact pg_floor vars hw a c stmts st0 st ps _ hres h hu (le_refl _) k

end NS
