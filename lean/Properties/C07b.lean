/-
  Properties/C07b.lean — totals of the pairing: what the first-come-first-served
  matching of Properties/C07.lean means for per-account credits and debits when
  the amount drawn equals the amount distributed (which the interpreter
  guarantees, see Properties/Statement.lean); bounds on the debits and credits
  of every prefix of the posting list; `Reconcile` with one side empty.
-/
import Properties.C07

namespace NS

/-- every real destination is credited exactly what the distribution gives it;
    nothing is credited on behalf of `kept` -/
theorem reconcile_credits (asset : String) (ss rs : List (String × Int))
    (hs : ∀ p ∈ ss, 0 < p.2) (hr : ∀ p ∈ rs, 0 < p.2) (heq : sumPulls ss = sumPulls rs)
    (x : String) (hx : x ≠ KEPT_ADDR) :
    creditsOf (Reconcile asset ss rs) x = pulled rs x := by
  exact reconcile_credits_of_le asset ss rs hs hr (by omega) x hx

/-- the postings add up to what was drawn minus what is kept -/
theorem reconcile_total (asset : String) (ss rs : List (String × Int))
    (hs : ∀ p ∈ ss, 0 < p.2) (hr : ∀ p ∈ rs, 0 < p.2) (heq : sumPulls ss = sumPulls rs) :
    ((Reconcile asset ss rs).map (·.amount)).sum = sumPulls ss - pulled rs KEPT_ADDR := by
  rw [reconcile_total_of_le asset ss rs hs hr (by omega), heq]

/-- without `kept`, every source is debited exactly what was drawn from it -/
theorem reconcile_debits_exact (asset : String) (ss rs : List (String × Int))
    (hs : ∀ p ∈ ss, 0 < p.2) (hr : ∀ p ∈ rs, 0 < p.2) (heq : sumPulls ss = sumPulls rs)
    (hk : pulled rs KEPT_ADDR = 0) (a : String) :
    debitsOf (Reconcile asset ss rs) a = pulled ss a := by
  exact reconcile_debits_of_le asset ss rs hs hr (by omega) hk a

/-- at every point of the posting list, an account has been debited at most what was drawn from it -/
theorem reconcile_prefix_debits_le (asset : String) (ss rs : List (String × Int))
    (hs : ∀ p ∈ ss, 0 < p.2) (hr : ∀ p ∈ rs, 0 < p.2) (a : String) (k : Nat) :
    debitsOf ((Reconcile asset ss rs).take k) a ≤ pulled ss a := by
  have h1 := rc_sumBy_take_le (fun s _ => decide (s = a)) (reconcile_positive asset ss rs hs hr) k
  have h2 := reconcile_debits_le_pulled asset ss rs hs hr a
  rw [debitsOf_eq_rc_sumBy] at h2 ⊢
  omega

/-- … and credited a non-negative amount -/
theorem reconcile_prefix_credits_nonneg (asset : String) (ss rs : List (String × Int))
    (hs : ∀ p ∈ ss, 0 < p.2) (hr : ∀ p ∈ rs, 0 < p.2) (a : String) (k : Nat) :
    0 ≤ creditsOf ((Reconcile asset ss rs).take k) a := by
  rw [creditsOf_eq_rc_sumBy]
  exact rc_sumBy_nonneg _ fun p hp => reconcile_positive asset ss rs hs hr p (List.mem_of_mem_take hp)

theorem reconcile_nil_receivers (asset : String) (ss : List (String × Int)) : Reconcile asset ss [] = [] := by
  simp [Reconcile, reconcileLoop]

theorem reconcile_nil_senders_no_kept (asset : String) (rs : List (String × Int)) :
    Reconcile asset [] rs = [] := by
  obtain ⟨_, _, _, _, h⟩ := reconcileLoop_invariant asset (fun ss _ acc => ss = [] ∧ acc = [])
    (fun _ _ _ _ h => ⟨by rw [h.1, withhold], h.2⟩) (fun _ _ _ _ _ _ _ _ h => nomatch h.1)
    [] rs [] ⟨rfl, rfl⟩
  rw [Reconcile, h, List.reverse_nil]

end NS
