/-
  Properties/C18.lean — editor analysis survives any text: over every partial
  syntax tree of the benign class (Spec/Benign.lean: nil children allowed
  everywhere except the four shapes listed there), static analysis, symbol
  listing, hover and go-to-definition never reach a panic site.
-/
import Proofs.EndToEndLemmas

namespace NS

/-- static analysis of a benign tree always yields a state with diagnostics, whatever the parse
    errors carried along: neither a panic nor a typed interpreter error -/
theorem check_total (prog : Program) (hb : prog.Benign) (pd : List Diag) :
    ∃ st, checkProgram pd prog = .ok st :=
  an_isOk_bind (an_checkVarDecls_ok prog.vars _ hb.1) fun st1 =>
    an_isOk_bind (an_checkStatements_ok prog.stmts st1 hb.2) fun _ => an_isOk_ok

/-- in particular it never panics -/
theorem check_never_panics (prog : Program) (hb : prog.Benign) (pd : List Diag) (s : String) :
    checkProgram pd prog ≠ .panic s :=
  an_isOk_ne_panic (check_total prog hb pd) s

/-- symbol listing never panics after a successful analysis of a benign tree -/
theorem symbols_never_panic (prog : Program) (hb : prog.Benign) (pd : List Diag) (st : CState)
    (h : checkProgram pd prog = .ok st) (s : String) : getSymbols st ≠ .panic s :=
  an_isOk_ne_panic (an_getSymbols_ok st ((an_checkProgram_step pd prog st h).2 hb)) s

/-- hover never panics, at any position -/
theorem hover_never_panics (prog : Program) (hb : prog.Benign) (pos : Pos) (s : String) :
    hoverOn prog pos ≠ .panic s :=
  an_isOk_ne_panic (an_hoverOn_ok prog hb pos) s

/-- go-to-definition never panics, at any position -/
theorem goto_never_panics (prog : Program) (hb : prog.Benign) (pd : List Diag) (st : CState)
    (h : checkProgram pd prog = .ok st) (pos : Pos) (s : String) :
    gotoDefinition prog st pos ≠ .panic s :=
  an_isOk_ne_panic (an_gotoDefinition_ok prog st pos ((an_checkProgram_step pd prog st h).2 hb)
    (an_hoverOn_ok prog hb pos)) s

/-- the hover text of the language server never panics either -/
theorem lspHover_never_panics (prog : Program) (hb : prog.Benign) (pd : List Diag) (st : CState)
    (h : checkProgram pd prog = .ok st) (pos : Pos) (s : String) :
    lspHover prog st pos ≠ .panic s :=
  an_isOk_ne_panic (an_lspHover_ok prog st pos ((an_checkProgram_step pd prog st h).2 hb)
    (an_hoverOn_ok prog hb pos)) s

/-- the parse errors handed to the analysis are reported first and unchanged -/
theorem check_keeps_parse_diags (prog : Program) (pd : List Diag) (st : CState)
    (h : checkProgram pd prog = .ok st) : ∃ rest, st.diags = pd ++ rest :=
  (an_checkProgram_step pd prog st h).1

/-- a complete expression (no nil child at all, Spec/Complete.lean) is benign and not nil; that a
    complete program is benign is `ee_program_benign` -/
theorem complete_is_benign_expr (e : Expr) (h : e.Complete) : e.Benign ∧ e ≠ .nil :=
  ⟨ee_expr_benign e h, ee_ne_nil h⟩

end NS
