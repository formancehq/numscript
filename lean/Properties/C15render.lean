/-
  Properties/C15render.lean — the lexer reads back what was written: a sequence of well-spelt
  tokens separated by single blanks lexes to exactly these tokens (kinds and texts); hence, with
  `parse_unparse`, writing a tree and parsing the text gives the tree back — from characters to tree.
-/
import Properties.C15layout2

namespace NS

/-- one token followed by the end of the text, or by a blank that is not followed by a slash (digits, a
    blank and `/digits` would be read as one ratio), is matched whole, as the intended kind -/
theorem best_of_lexable (s : Shape) (hs : s.Lexable) (rest : List Char)
    (hrest : rest = [] ∨ ∃ r, rest = ' ' :: r ∧ r.head? ≠ some '/') :
    bestOf (candidates (s.2 ++ rest)) = some (some s.1, s.2.length) := by
  refine lm_best_of_lexable s hs rest ?_
  rcases hrest with rfl | ⟨r, rfl, hr⟩
  · exact lm_After_nil
  · refine ⟨rfl, lm_slashOk_of_next ?_⟩
    cases r with
    | nil => trivial
    | cons x r => exact fun e => hr (congrArg some e)

/-- a rendered token sequence lexes to the same kinds and texts -/
theorem lex_render (shapes : List Shape) (h : ∀ s ∈ shapes, s.Lexable) :
    (lex (renderShapes shapes)).map (fun ts => ts.map Tok.shape) = some shapes := by
  simpa [ly_render_eq_interleave] using
    lex_layout_insertion_partial shapes [] [] [] h (by simp) Layout.nil (Or.inl rfl)

/-- from characters to tree: the canonical text of a writable tree with well-spelt names parses to that tree -/
theorem parse_render (p : Program) (hp : p.Printable) (hl : ∀ s ∈ p.toks, s.Lexable) :
    (parseProgram (renderShapes p.toks)).map Program.skel = some p.skel := by
  simpa [ly_render_eq_interleave] using
    parse_layout_insertion_partial p hp hl [] [] [] (by simp) Layout.nil (Or.inl rfl)

end NS
