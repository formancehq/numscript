/-
  Properties/C12.lean — execution never panics and fails with a typed error
  (atomically: Properties/C12api.lean).  `Outcome` makes "a result and an error are
  never both present" true by construction of the model (checked on the Go side by the
  harness); the theorems here are: no panic site is reachable for a complete program, and
  a store failure surfaces as an execution error carrying the store's message.
-/
import Proofs.NoPanicLemmas

namespace NS

/-- For every script that parses without errors (no nil child in the tree), every choice of
    variables, store behaviour and flags: the run returns a result or a typed error — no panic site
    of the Go code (nil dereference, non-exhaustive match, index out of range) is reachable. -/
theorem run_never_panics (prog : Program) (hc : prog.Complete) (rawVars : List (String × String))
    (store : Store) (flag : Bool) (s : String) : RunProgram prog rawVars store flag ≠ .panic s :=
  np_RunProgram prog hc rawVars store flag s

/-- expression evaluation never panics on complete expressions -/
theorem evalExpr_never_panics (vars : Vars) (e : Expr) (hc : e.Complete) (s : String) :
    evalExpr vars e ≠ .panic s :=
  np_evalExpr vars e hc s

/-- a failing balance query surfaces as `QueryBalanceError` with the store's message -/
theorem getBalance_store_failure (store : Store) (q : QState) (account asset msg : String)
    (h : runBalancesQuery store { q with pending := batchQuery q.pending account asset } = .error msg) :
    getBalance store q account asset = .err (.queryBalance msg) := by
  unfold getBalance
  simp only [h]

/-- a failing preload query aborts the run with the store's message: no statement is executed on
    missing data -/
theorem run_preload_failure (prog : Program) (rawVars : List (String × String)) (store : Store) (flag : Bool)
    (vars : Vars) (q : QState) (pending : BalanceQuery) (msg : String)
    (hv : parseVars store flag rawVars prog.vars [] ⟨[], [], 0, []⟩ = .ok (vars, q))
    (hp : preload vars prog.stmts q.pending = .ok pending)
    (hq : runBalancesQuery store { q with pending := pending } = .error msg) :
    RunProgram prog rawVars store flag = .err (.queryBalance msg) := by
  unfold RunProgram
  simp only [hv, hp, hq]

/-- a failing metadata query surfaces as `QueryMetadataError` with the store's message -/
theorem meta_store_failure (store : Store) (flag : Bool) (vars : Vars) (q : QState) (ty : String) (fn : FnCall)
    (account key msg : String) (hname : fn.name = "meta")
    (hargs : evalExprs vars fn.args = .ok [.account account, .str key])
    (h : store.getMeta q.calls account key = .error msg) :
    handleOrigin store flag vars q ty fn = .err (.queryMetadata msg) := by
  unfold handleOrigin
  simp only [hargs, hname, parseArgs2, expectAccount, expectString, Outcome.ok_bind,
    Outcome.pure_eq, if_true, h]

/-- when every pending balance is in the cache, `runBalancesQuery` returns the state as it is: the
    store is not called, whatever it would have answered -/
theorem runBalancesQuery_no_call (store : Store) (q q' : QState)
    (hf : (q.pending.filter (fun p => p.2.any (fun c => ! cacheHas q.cache p.1 c))).isEmpty = true)
    : runBalancesQuery store q = .ok q := by
  unfold runBalancesQuery
  simp only [hf, if_true]

end NS
