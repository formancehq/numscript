/-
  Properties/C15ranges.lean — ranges of the parsed tree (Model/Parse.lean) over a token
  stream in text order: every node's range runs from its first token to its last, children
  lie within their parents, siblings are in text order without overlap; distinct function
  calls sit at distinct places (the parser invariant assumed by C16/C17).
-/
import Spec.ParseSpec
import Spec.Names
import Proofs.ParserInv
import Proofs.ParseRangeLemmas
import Properties.C19

namespace NS

/-- children within parents, siblings ordered, declarations and statements in text order -/
theorem parseTokens_ranges_ok (ts : List Tok) (p : Program) (hs : TokensSorted ts)
    (h : parseTokens ts = some p) : p.RangesOk :=
  (pr_parseTokens_inv ts p hs h).1

/-- the call ranges of the specification are those the soundness proof of the checker speaks of -/
theorem callRanges_eq_fnRanges (p : Program) : callRanges p = p.fnRanges := by
  have h1 : ∀ ds : List VarDecl, ds.flatMap declCall = sd_declsFnRanges ds := by
    intro ds
    induction ds with
    | nil => rfl
    | cons d ds ih => exact congrArg (declCall d ++ ·) ih
  have h2 : ∀ ss : List Statement, ss.flatMap stmtCall = sd_stmtsFnRanges ss := by
    intro ss
    induction ss with
    | nil => rfl
    | cons s ss ih => exact congrArg (stmtCall s ++ ·) ih
  simp only [callRanges, Program.fnRanges, h1, h2]

/-- distinct calls have distinct caller ranges -/
theorem parseTokens_call_ranges_nodup (ts : List Tok) (p : Program) (hs : TokensSorted ts)
    (h : parseTokens ts = some p) : (callRanges p).Nodup ∧ p.fnRanges.Nodup := by
  obtain ⟨lo, hi, hc⟩ := (pr_parseTokens_inv ts p hs h).2
  exact ⟨hc.nodup, callRanges_eq_fnRanges p ▸ hc.nodup⟩

/-- well-formed ranges give the nesting that hover completeness (C19) assumes -/
theorem rangesOk_nested (e : Expr) (h : e.RangesOk) : e.Nested := by
  induction e with
  | monetary r a n iha ihn | «infix» r _ a n iha ihn =>
      obtain ⟨⟨h1, _, h3⟩, ha, hn⟩ := h
      exact ⟨fun p hp _ => pr_contains_within h1 hp, fun p hp _ => pr_contains_within h3 hp, iha ha, ihn hn⟩
  | _ => trivial

/-- every expression of a parsed program is well nested -/
theorem parseTokens_exprs_nested (ts : List Tok) (p : Program) (hs : TokensSorted ts)
    (h : parseTokens ts = some p) : ∀ e ∈ p.exprs, e.Nested :=
  fun e he => rangesOk_nested e (pr_program_exprs p (parseTokens_ranges_ok ts p hs h) e he)

end NS
