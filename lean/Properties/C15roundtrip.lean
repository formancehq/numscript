/-
  Properties/C15roundtrip.lean — the parser recovers exactly the tree that was written.
  `Program.toks` (Spec/Unparse.lean) is the token sequence (kinds and texts) a tree is written
  as; for every writable tree (`Printable`: no nil child, numbers a machine integer holds, `+`/`-`
  nested to the left, no empty allotment, no ordered destination without a `max` clause) and every
  token stream with these kinds and texts — whatever the positions, i.e. whatever blanks, newlines
  and comments separate the tokens — the parser model accepts and returns that tree (up to ranges):
  statement order, source and destination nesting, which expression is a cap and which an address,
  literal values, declarations and origins.
-/
import Proofs.UnparseLemmas
import Properties.C15tree

namespace NS

/-- expressions: the parser reads back a written expression and stops right after it, whatever
    follows (as long as it is not a `+` or `-`, which would continue the expression) -/
theorem parse_unparse_expr (e : Expr) (he : e.Printable) (ts rest : List Tok)
    (h : ts.map Tok.shape = e.toks)
    (hrest : ∀ t, rest.head? = some t → t.kind ≠ .plus ∧ t.kind ≠ .minus)
    (f : Nat) (hf : 2 * ts.length + 2 ≤ f) :
    ∃ e' stop, pExpr f (ts ++ rest) = some (e', stop, rest) ∧ e'.skel = e.skel := by
  have hlen : ts.length = e.toks.length := by rw [← h, List.length_map]
  obtain ⟨e0, s0, hp0, hsk0⟩ := up_expr he rest f hrest (by omega)
  -- the written form itself is read back (`up_expr`); `ts` has the same kinds and texts
  have hsim : pt_Sim (ts ++ rest) (e.toks.map up_tok ++ rest) := (up_tok_sim h).append_right rest
  rcases ((pt_expr_sim f).1 _ _ hsim).inv with ⟨_, h2⟩ | ⟨⟨e', stop, rest'⟩, _, h1, h2, hsk, hr⟩
  · rw [hp0] at h2; cases h2
  · rw [hp0] at h2; cases h2
    -- what is left is a suffix of the input, of the length of `rest`
    obtain ⟨c, hc, _⟩ := ((gr_expr f).1 _ _ _ _ h1).2
    have : rest' = rest := (List.append_inj_right' hc hr.length_eq.symm).symm
    subst this
    exact ⟨e', stop, h1, hsk.trans hsk0⟩

/-- whole scripts -/
theorem parse_unparse (p : Program) (hp : p.Printable) (ts : List Tok)
    (h : ts.map Tok.shape = p.toks) :
    (parseTokens ts).map Program.skel = some p.skel := by
  rw [parse_layout_independent ts _ (up_tok_sim h)]
  exact up_program p hp

/-- the literals of a written tree are in the range `Parse` accepts -/
theorem unparse_numbers_in_range (p : Program) (hp : p.Printable) (ts : List Tok)
    (h : ts.map Tok.shape = p.toks) : numbersInRange ts = true := by
  rw [up_numbersInRange, h]
  exact up_program_nr p hp

end NS
