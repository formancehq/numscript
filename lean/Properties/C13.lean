/-
  Properties/C13.lean — values keep their exact meaning across literal,
  variable and metadata text.  About Model/Text.lean: the literal converters
  (`ratioLiteral`, `percentLiteral`), the portion-variable reader
  (`ParsePortionSpecific`), `parseVar` and the renderings.
-/
import Proofs.TextLemmas

namespace NS

/-- base-ten positional value, defined from the most significant digit -/
def posValue : List Char → Nat
  | [] => 0
  | c :: t => digitVal c * 10 ^ t.length + posValue t

/-- `digitsVal` (a left fold) is the base-ten positional value, for any number of digits and any
    leading zeros -/
theorem digitsVal_eq_posValue (ds : List Char) : digitsVal ds = posValue ds := by
  induction ds with
  | nil => rfl
  | cons c t ih => rw [tx_digitsVal_cons, posValue, ih]

theorem digitsVal_append_digit (ds : List Char) (c : Char) :
    digitsVal (ds ++ [c]) = 10 * digitsVal ds + digitVal c := by
  rw [tx_digitsVal_append, List.length_singleton, Nat.pow_one, Nat.mul_comm]
  simp [digitsVal]

/-- optional single blank around the slash -/
def sp (b : Bool) : List Char := if b then [' '] else []

/-- literal `n/d` (with optional single blanks): numerator and denominator are exactly the two
    numerals read in base ten — whatever their length and leading zeros -/
theorem ratio_literal_exact (n d : List Char) (hn : n ≠ []) (hnd : n.all isDigit = true)
    (hd : d ≠ []) (hdd : d.all isDigit = true) (b1 b2 : Bool) :
    ratioLiteral (n ++ sp b1 ++ ['/'] ++ sp b2 ++ d) = some (digitsVal n, digitsVal d) :=
  tx_ratioLiteral n d hn hnd hd hdd b1 b2

/-- literal `p%`: exactly p/100 -/
theorem percent_literal_exact (p : List Char) (hp : p ≠ []) (hpd : p.all isDigit = true) :
    percentLiteral (p ++ ['%']) = some (digitsVal p, 100) := by
  unfold percentLiteral
  rw [tx_matchPercent_int p hp hpd]
  simp [pow10]

/-- literal `p.q%`: exactly (the numeral pq)/10^(2+|q|) -/
theorem percent_frac_literal_exact (p q : List Char) (hp : p ≠ []) (hpd : p.all isDigit = true)
    (hq : q ≠ []) (hqd : q.all isDigit = true) :
    percentLiteral (p ++ ['.'] ++ q ++ ['%']) = some (digitsVal (p ++ q), 10 ^ (2 + q.length)) := by
  unfold percentLiteral
  rw [show p ++ ['.'] ++ q ++ ['%'] = p ++ '.' :: (q ++ ['%']) by simp,
    tx_matchPercent_frac p q hp hpd hq hqd]
  simp [pow10]

/-- the same text passed as a portion variable denotes the same number (when it lies in [0,1]) -/
theorem portion_var_ratio (n d : List Char) (hn : n ≠ []) (hnd : n.all isDigit = true)
    (hd : d ≠ []) (hdd : d.all isDigit = true) (b1 b2 : Bool)
    (hz : digitsVal d ≠ 0) (hle : digitsVal n ≤ digitsVal d) :
    ParsePortionSpecific (String.ofList (n ++ sp b1 ++ ['/'] ++ sp b2 ++ d)) =
      .ok (mkRat (digitsVal n) (digitsVal d)) :=
  tx_pps_fraction_ok _ n d (tx_matchPercent_ratio_none n d hnd b1 b2)
    (tx_matchFraction n d hn hnd hd hdd b1 b2) hz hle

/-- likewise for `p%` (`q = []`) and `p.q%` -/
theorem portion_var_percent (p q : List Char) (hp : p ≠ []) (hpd : p.all isDigit = true)
    (hqd : q.all isDigit = true)
    (hle : digitsVal (p ++ q) ≤ 10 ^ (2 + q.length)) :
    ParsePortionSpecific (String.ofList (p ++ (if q = [] then [] else '.' :: q) ++ ['%'])) =
      .ok (mkRat (digitsVal (p ++ q)) (10 ^ (2 + q.length))) := by
  by_cases hq : q = []
  · subst hq
    simpa using tx_pps_percent_ok _ p [] (tx_matchPercent_int p hp hpd) hle
  · simpa [hq] using tx_pps_percent_ok _ p q (tx_matchPercent_frac p q hp hpd hq hqd) hle

/-- a ratio whose value exceeds one or whose denominator is zero is rejected, not misread -/
theorem portion_var_ratio_rejected (n d : List Char) (hn : n ≠ []) (hnd : n.all isDigit = true)
    (hd : d ≠ []) (hdd : d.all isDigit = true) (b1 b2 : Bool)
    (hbad : digitsVal d = 0 ∨ digitsVal d < digitsVal n) :
    ∃ reason, ParsePortionSpecific (String.ofList (n ++ sp b1 ++ ['/'] ++ sp b2 ++ d)) =
      .err (.badPortionParsing reason) :=
  tx_pps_fraction_bad _ n d (tx_matchPercent_ratio_none n d hnd b1 b2)
    (tx_matchFraction n d hn hnd hd hdd b1 b2) hbad

/-! ### round trip through metadata text: `parseVar τ (render v) = v` -/

/-- every value is read back from its rendering at its own type, provided an account name is
    valid, a portion lies in [0,1] (it is rendered as `num/den`) and the asset of a monetary has
    no blank; strings, assets and numbers need nothing -/
theorem roundtrip (v : Value)
    (h : match v with
      | .account s => validAccountName s = true
      | .portion q => 0 ≤ q ∧ q ≤ 1
      | .monetary a _ => ' ' ∉ a.toList
      | _ => True) :
    parseVar v.typeName v.render = .ok v := by
  cases v with
  | str s => rfl
  | asset s => rfl
  | account s => simp [parseVar, Value.typeName, Value.render, show validAccountName s = true from h]
  | portion q => simp [parseVar, Value.typeName, Value.render, tx_pps_renderRat q h.1 h.2]
  | number n =>
    simp only [parseVar, Value.typeName, Value.render, tx_parseInt_toString]
    simp
  | monetary a n =>
    simp only [parseVar, Value.typeName, Value.render, if_true]
    exact tx_parseMonetary_render a n h

theorem roundtrip_string (s : String) : parseVar "string" (Value.str s).render = .ok (.str s) :=
  roundtrip (.str s) trivial

theorem roundtrip_asset (s : String) : parseVar "asset" (Value.asset s).render = .ok (.asset s) :=
  roundtrip (.asset s) trivial

theorem roundtrip_account (s : String) (h : validAccountName s = true) :
    parseVar "account" (Value.account s).render = .ok (.account s) :=
  roundtrip (.account s) h

/-- portions in [0,1]: rendered as `num/den`, read back as the same rational -/
theorem roundtrip_portion (q : Rat) (h0 : 0 ≤ q) (h1 : q ≤ 1) :
    parseVar "portion" (Value.portion q).render = .ok (.portion q) :=
  roundtrip (.portion q) ⟨h0, h1⟩

/-- numbers of any sign and size -/
theorem roundtrip_number (n : Int) : parseVar "number" (Value.number n).render = .ok (.number n) :=
  roundtrip (.number n) trivial

/-- monetaries: any asset text without a blank, any amount -/
theorem roundtrip_monetary (a : String) (n : Int) (ha : ' ' ∉ a.toList) :
    parseVar "monetary" (Value.monetary a n).render = .ok (.monetary a n) :=
  roundtrip (.monetary a n) ha

/-! non-vacuity: a fractional percentage, a denominator with a leading zero -/
example : percentLiteral "0.10%".toList = some (10, 10000) := by decide
example : ratioLiteral "1/010".toList = some (1, 10) := by decide
example : ParsePortionSpecific "1/010" = .ok (mkRat 1 10) := by
  have := portion_var_ratio ['1'] ['0', '1', '0'] (by decide) (by decide) (by decide) (by decide)
    false false (by decide) (by decide)
  have h1 : digitsVal ['1'] = 1 := by decide
  have h2 : digitsVal ['0', '1', '0'] = 10 := by decide
  rw [h1, h2] at this
  exact this

end NS
