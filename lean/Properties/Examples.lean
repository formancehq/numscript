/-
  Properties/Examples.lean — non-vacuity: for property theorems of the imported
  modules whose statements have hypotheses, a concrete non-trivial instance that
  satisfies all of them at once (so the implication is not vacuously true).
  They are not part of any property's claim.
-/
import Properties.C010203
import Properties.C1011
import Properties.C12
import Properties.C1415
import Properties.C16
import Properties.C17
import Properties.C18
import Properties.C19
import Proofs.ExampleLemmas

namespace NS

def R0 : Range := Range.zero

/-- `send [USD 15] (source = {@a @a @b} destination = {max [USD 4] kept remaining to @x})`
    then `save [USD 2] from @b`, then `send [USD *] (source = @b allowing overdraft up to [USD 3] destination = @y)` -/
def exStmts : List Statement := [
  .send R0 (.lit R0 (.monetary R0 (.asset R0 "USD") (.number R0 15)))
    (.inorder R0 [.account (.account R0 "a"), .account (.account R0 "a"), .account (.account R0 "b")])
    (.inorder R0 [.mk R0 (.monetary R0 (.asset R0 "USD") (.number R0 4)) (.kept R0)] (.to (.account (.account R0 "x")))),
  .save R0 (.lit R0 (.monetary R0 (.asset R0 "USD") (.number R0 2))) (.account R0 "b"),
  .send R0 (.all R0 (.asset R0 "USD"))
    (.overdraft R0 (.account R0 "b") (some (.monetary R0 (.asset R0 "USD") (.number R0 3))))
    (.account (.account R0 "y"))
]

def exCache : Cache := [(("a", "USD"), 10), (("b", "USD"), 20)]

/-- C01/C02/C03: all hypotheses of `no_unauthorized_overdraft`, `postings_are_real` hold for a run that
    names an account twice, keeps funds, saves, and uses a bounded overdraft — and it produces postings -/
example : ∃ st ps, runStatements [] exStmts ⟨exCache, [], []⟩ = .ok (ps, st) ∧ ps.length ≥ 3 ∧
    VarsWF [] ∧ SendsResolve [] exStmts ∧ unbInStmts [] exStmts "a" "USD" = false ∧
    unbInStmts [] exStmts "b" "USD" = false := by
  refine ⟨⟨[(("a", "USD"), 4), (("b", "USD"), -3), (("x", "USD"), 11), (("y", "USD"), 16)], [], []⟩,
    [⟨"a", "x", 6, "USD"⟩, ⟨"b", "x", 5, "USD"⟩, ⟨"b", "y", 16, "USD"⟩], ?_, by decide, ?_, ?_, by decide, by decide⟩
  · simp [runStatements, runStatement, runSendStatement, runSaveStatement, evaluateSentAmt, evalAs, evalExpr,
      expectMonetary, expectAsset, expectAccount, expectNumber, expectMonetaryOfAsset, trySendingExact,
      trySendingUpTo, sendInorder, trySendingToAccount, sendAll, sendAllToAccount, availableFunds, pushSender,
      pulled, cacheGet, receiveFrom, receiveClauses, receiveKoD, pushReceiver, Reconcile, reconcileLoop,
      withhold, addPosting, applyPostings, cacheSet, cacheHas, savedBalance, WORLD, KEPT_ADDR, exStmts,
      exCache, R0]
  · intro name q h; simp [lookupVar] at h
  · intro s hs hex
    simp only [exStmts, List.mem_cons, List.not_mem_nil, or_false] at hs
    rcases hs with rfl | rfl | rfl
    · simp [stmtSend, evalAs, evalExpr, expectMonetary, expectAsset, expectAccount, expectNumber,
        expectMonetaryOfAsset, resolveS, resolveSList, resolveD, resolveClauses, resolveKoD, WORLD]
    · obtain ⟨_, _, _, _, h⟩ := hex; cases h
    · simp [stmtSend, evalAs, evalExpr, expectMonetary, expectAsset, expectAccount, expectNumber,
        expectMonetaryOfAsset, resolveS, resolveD, WORLD]

/-- the overdraft floor of @b in that script is −3 and is reached -/
example : overdraftFloor (balOfCache exCache) [] exStmts "b" "USD" = -3 := by
  decide

/-- C10: two different stores faithful to the same content exist (exact and whole-content) -/
def exContent : Content := ⟨fun a c => if a = "a" ∧ c = "USD" then 10 else 0, fun _ _ => none⟩
def exStoreExact : Store :=
  ⟨fun _ q => .ok (q.flatMap (fun p => p.2.map (fun c => ((p.1, c), exContent.bal p.1 c)))), fun _ _ _ => .ok []⟩
def exStoreWhole : Store := ⟨fun _ _ => .ok [(("a", "USD"), 10), (("zz", "EUR"), 0)], fun _ _ _ => .ok []⟩

example : Faithful exStoreExact exContent ∧ Faithful exStoreWhole exContent := by
  refine ⟨⟨fun idx q => ⟨_, rfl, ?_, ?_⟩, fun idx a k => ⟨[], rfl, rfl⟩⟩,
          ⟨fun idx q => ⟨_, rfl, ?_, ?_⟩, fun idx a k => ⟨[], rfl, rfl⟩⟩⟩
  · intro a c v h
    exact ex_ansFind_tabulate_some exContent.bal q a c v h
  · intro a cs hq c hc h
    exact absurd h (ex_ansFind_tabulate_ne_none exContent.bal q a c cs hq hc)
  · intro a c v h
    simp only [ex_ansFind_cons, ex_ansFind_nil, exContent] at h ⊢
    split at h
    · rename_i h1; obtain ⟨rfl, rfl⟩ := h1; simpa using h.symm
    · rename_i h1
      have h1' : ¬ (a = "a" ∧ c = "USD") := fun ⟨x, y⟩ => h1 ⟨x.symm, y.symm⟩
      split at h
      · simpa [h1'] using h.symm
      · cases h
  · intro a cs hq c hc h
    simp only [ex_ansFind_cons, ex_ansFind_nil, exContent] at h ⊢
    split at h
    · cases h
    · rename_i h1
      have h1' : ¬ (a = "a" ∧ c = "USD") := fun ⟨x, y⟩ => h1 ⟨x.symm, y.symm⟩
      simp [h1']

/-- C12: a complete program (hypothesis of `run_never_panics`) -/
example : (⟨[], exStmts⟩ : Program).Complete := by
  simp [Program.Complete, VarDeclsComplete, StatementsComplete, Statement.Complete, SentValue.Complete,
    Expr.Complete, Source.Complete, SourcesComplete, Dest.Complete, KoD.Complete, ClausesComplete, exStmts]

/-- C16/C17: the parser invariants and a clean check hold for the example program -/
example : (callRanges ⟨[], exStmts⟩).Nodup ∧ (⟨[], exStmts⟩ : Program).ParserInv ∧
    ∃ st, checkProgram [] ⟨[], exStmts⟩ = .ok st ∧ errorCount st.diags = 0 := by
  refine ⟨?_, ⟨?_, ?_⟩, ?_⟩
  · decide
  · intro s hs
    simp only [exStmts, List.mem_cons, List.not_mem_nil, or_false] at hs
    rcases hs with rfl | rfl | rfl <;>
      simp [Statement.ShapeOk, Source.ShapeOk, SourcesShapeOk, Dest.ShapeOk, KoD.ShapeOk, ClausesShapeOk]
  · simp [Program.fnRanges, sd_declsFnRanges, sd_stmtsFnRanges, Statement.fnRanges, exStmts]
  · -- the check reports one warning (`@a` is emptied by its first mention) and no error
    simp [checkProgram, checkVarDecls, checkStatements, checkStatement, checkSentValue, checkExpression,
      assertHasType, checkSource, checkSourceList, sourceHead, checkSourceAccountLit, checkOverdraftHead,
      checkDestination, checkClauses, checkKoD, CState.push, exStmts, WORLD, R0, errorCount,
      DiagKind.severity, DiagKind.name, severityTable]

/-- C18: a benign tree with missing pieces (what a half-typed document gives): a send without
    destination, an allotment clause without portion, a declaration without origin -/
def exPartial : Program :=
  ⟨[⟨R0, some (R0, "x"), some (R0, "monetary"), none⟩],
   [.send R0 (.lit R0 (.var R0 "x")) (.allotment R0 [.mk R0 .nil (.account (.account R0 "a"))]) .nil, .nil]⟩

example : exPartial.Benign ∧ ¬ exPartial.Complete := by
  constructor
  · simp [exPartial, Program.Benign, VarDeclsBenign, VarDecl.Benign, StatementsBenign, Statement.Benign,
      SentValue.Benign, Expr.Benign, Source.Benign, SrcItemsBenign, AllotVal.Benign, Dest.Benign]
  · simp [exPartial, Program.Complete, VarDeclsComplete, VarDecl.Complete, StatementsComplete,
      Statement.Complete, SentValue.Complete, Expr.Complete, Source.Complete, SrcItemsComplete,
      AllotVal.Complete, Dest.Complete]

/-- C19: a well-nested expression with two variable tokens, and a cursor inside exactly one of them -/
def exExpr : Expr :=
  .monetary ⟨⟨0, 0⟩, ⟨0, 12⟩⟩ (.var ⟨⟨0, 1⟩, ⟨0, 4⟩⟩ "as") (.var ⟨⟨0, 6⟩, ⟨0, 10⟩⟩ "amt")

example : exExpr.Nested ∧ (⟨⟨0, 6⟩, ⟨0, 10⟩⟩, "amt") ∈ usesE exExpr ∧
    hoverOnExpression exExpr ⟨0, 7⟩ = .ok (some (.variable ⟨⟨0, 6⟩, ⟨0, 10⟩⟩ "amt")) := by
  refine ⟨⟨?_, ?_, trivial, trivial⟩, by decide, rfl⟩ <;>
    exact fun p h _ => contains_mono _ _ p (by decide) (by decide) h

end NS
