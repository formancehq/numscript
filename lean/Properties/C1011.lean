/-
  Properties/C1011.lean — results depend only on the balances asked for, never
  on how the store answers (C10); feature flags change nothing except the
  feature they gate, and the run is a function of its inputs (C11: in the model
  this is true by construction — `RunProgram` is a pure Lean function whose
  state is local; aliasing, map-order and interleaving effects of the Go code
  are observed by the harness: repeated runs, input snapshots, -race).
-/
import Spec.StoreSpec
import Proofs.StoreLemmas

namespace NS

/-- C10: two stores that answer faithfully for the same content — returning exactly what is asked,
    omitting zero entries, or returning everything they hold — give the same observable result
    (postings, metadata, or error), for every script, variables and flags.  The store is assumed to
    hold no balance for @world (its balance is never requested).  No hypothesis is needed for that:
    `cacheMerge` ignores an @world entry if the store volunteers one. -/
theorem store_independent (prog : Program) (rawVars : List (String × String)) (flag : Bool)
    (s1 s2 : Store) (ct : Content) (h1 : Faithful s1 ct) (h2 : Faithful s2 ct) :
    observe (RunProgram prog rawVars s1 flag) = observe (RunProgram prog rawVars s2 flag) := by
  unfold RunProgram
  with_reducible refine (sr_parseVars_rel h1 h2 flag rawVars prog.vars [] _ _ (sr_cacheOK_nil ct)
    (sr_cacheOK_nil ct)).elim ?_ ?_ ?_
  · exact fun _ => rfl
  · exact fun _ => rfl
  rintro ⟨vars, q1⟩ ⟨_, q2⟩ ⟨rfl, hc1, hc2⟩
  dsimp only
  with_reducible refine (sr_ORel_join (sr_preload_nil vars prog.stmts q1.pending)
    (sr_preload_nil vars prog.stmts q2.pending)).elim ?_ ?_ ?_
  · exact fun _ => rfl
  · exact fun _ => rfl
  rintro pend1 pend2 ⟨r, hr, hsub1, hsub2⟩
  dsimp only
  obtain ⟨q1', hq1', hc1', hcov1⟩ := sr_runBalancesQuery_faithful s1 ct h1 { q1 with pending := pend1 } hc1
  obtain ⟨q2', hq2', hc2', hcov2⟩ := sr_runBalancesQuery_faithful s2 ct h2 { q2 with pending := pend2 } hc2
  rw [hq1', hq2']
  dsimp only
  have hag : sr_AgreeQ r q1'.cache q2'.cache := fun a s ha hp => by
    rw [(hcov1 a s ha (hsub1 a s hp)).1, (hcov2 a s ha (hsub2 a s hp)).1]
  have hw : ∀ s, cacheGet q1'.cache WORLD s = cacheGet q2'.cache WORLD s := fun s => by
    rw [hc1'.2 s, hc2'.2 s]
  have hfr := sr_runStatements_frame vars r prog.stmts [] q1'.cache q2'.cache [] [] hr hag hw
  with_reducible refine hfr.elim ?_ ?_ ?_
  · exact fun _ => rfl
  · exact fun _ => rfl
  rintro ⟨ps, st1⟩ ⟨_, st2⟩ ⟨rfl, htx, ham⟩
  dsimp only at htx ham
  simp only [observe, htx, ham]

/-- the balance of @world is never requested -/
theorem world_never_requested (prog : Program) (rawVars : List (String × String)) (flag : Bool) (store : Store)
    (res : ExecResult) (h : RunProgram prog rawVars store flag = .ok res) :
    ∀ call ∈ res.log, WORLD ∉ callAccounts call := by
  suffices hall : sr_OkAll (fun res : ExecResult => ∀ call ∈ res.log, WORLD ∉ callAccounts call)
      (RunProgram prog rawVars store flag) from hall.of_ok h
  unfold RunProgram
  refine (sr_parseVars_nw store flag rawVars prog.vars [] ⟨[], [], 0, []⟩ ⟨nofun, nofun⟩).elim
    (fun _ => rfl) (fun _ => rfl) fun r hq => ?_
  dsimp only
  cases hpre : preload r.1 prog.stmts r.2.pending with
  | panic _ => exact rfl
  | err _ => exact rfl
  | ok pending =>
  dsimp only
  cases hrq : runBalancesQuery store { r.2 with pending := pending } with
  | error _ => exact rfl
  | ok q' =>
  dsimp only
  cases runStatements r.1 prog.stmts ⟨q'.cache, [], []⟩ with
  | panic _ => exact rfl
  | err _ => exact rfl
  | ok _ =>
    exact (sr_runBalancesQuery_nw store _ q' hrq
      ⟨sr_preload_noWorld r.1 prog.stmts r.2.pending pending hq.1 hpre, hq.2⟩).2

/-- `batchQuery` never adds @world to the pending query -/
theorem batchQuery_no_world (p : BalanceQuery) (account asset : String) (h : ∀ e ∈ p, e.1 ≠ WORLD) :
    ∀ e ∈ batchQuery p account asset, e.1 ≠ WORLD :=
  sr_batchQuery_noWorld p account asset h

/-- a value learned from an earlier request is not forgotten when a later request is made:
    merging an answer never changes an entry that is already cached -/
theorem cache_never_forgets (c : Cache) (ans : BalanceAnswer) (a s : String) (h : cacheHas c a s = true) :
    cacheHas (cacheMerge c ans) a s = true ∧ cacheGet (cacheMerge c ans) a s = cacheGet c a s :=
  have ⟨hg, hh⟩ := sr_cacheMerge_kept ans c a s (Or.inr h)
  ⟨hh.trans h, hg⟩

/-- … and what a faithful answer brings in is the content's value -/
theorem cacheMerge_faithful (ct : Content) (q : BalanceQuery) (c : Cache) (ans : BalanceAnswer)
    (hf : FaithfulAnswer ct q ans) (hc : ∀ a s, a ≠ WORLD → cacheHas c a s = true → cacheGet c a s = ct.bal a s) :
    ∀ a s, a ≠ WORLD → cacheHas (cacheMerge c ans) a s = true → cacheGet (cacheMerge c ans) a s = ct.bal a s :=
  sr_cacheMerge_faithful ct q c ans hf hc

/-- C11: a script that does not call `overdraft()` gives the same result with the flag on or off -/
theorem flag_only_gates_overdraft (prog : Program) (rawVars : List (String × String)) (store : Store)
    (h : usesOverdraftFn prog = false) :
    RunProgram prog rawVars store true = RunProgram prog rawVars store false := by
  unfold RunProgram
  rw [sr_parseVars_flag store rawVars prog.vars [] ⟨[], [], 0, []⟩ h]

/-- with the flag off, `overdraft()` fails with the experimental-feature error (unless its
    arguments fail to evaluate first) -/
theorem overdraft_gated (store : Store) (vars : Vars) (q : QState) (ty : String) (fn : FnCall) (args : List Value)
    (hname : fn.name = "overdraft") (hargs : evalExprs vars fn.args = .ok args) :
    handleOrigin store false vars q ty fn = .err (.experimentalFeature FLAG_OVERDRAFT) := by
  unfold handleOrigin
  rw [hargs]
  simp only [hname, String.reduceEq, if_false, if_true, Bool.not_false]

end NS
