/-
  Properties/Statement.lean — one send statement: the interpreter's
  `runSendStatement` is the reference semantics `specSend` / `specSendAll`
  (draw, distribute, pair) whenever its expressions evaluate; and what that
  semantics guarantees about the postings of the statement.  These are the
  statement-level halves of properties C01–C05 and C07.
-/
import Spec.Statement
import Properties.C04
import Properties.C05
import Properties.C07
import Properties.C07b
import Properties.DrawBounds
import Proofs.StatementLemmas

namespace NS

private theorem st_availOf_nil (vars : Vars) (c : Cache) (asset : String) :
    availOf ⟨vars, c, asset⟩ [] = availOfCache c asset := by
  funext a
  simp [availOf, availOfCache, pulled]

/-! ### refinement -/

/-- a fixed-amount send is `specSend` on the denotations of its sub-expressions -/
theorem runSend_fixed_refines (vars : Vars) (st : RState) (r : Range) (m : Expr) (src : Source) (dst : Dest)
    (asset : String) (n : Int) (rs : RSource) (rd : RDest)
    (hm : evalAs vars m expectMonetary = .ok (asset, n))
    (hs : resolveS vars asset src = .ok rs) (hd : resolveD vars asset dst = .ok rd) :
    runSendStatement vars st (.lit r m) src dst =
      (match specSend asset n rs rd (availOfCache st.cache asset) with
       | .ok ps => .ok (ps, { st with cache := applyPostings st.cache ps })
       | .err e => .err e
       | .panic s => .panic s) := by
  unfold runSendStatement specSend
  simp only [hm]
  by_cases hn : n < 0
  · simp [hn]
  · simp only [hn, if_false, trySendingExact]
    rw [send_refines_draw ⟨vars, st.cache, asset⟩ src rs n [] hs,
      receive_refines_distribute ⟨vars, st.cache, asset⟩ dst rd n [] hd, st_availOf_nil]
    cases hdr : draw asset rs (availOfCache st.cache asset) n with
    | err e => rfl
    | panic s => rfl
    | ok l =>
      simp only [List.nil_append]
      by_cases hsum : sumPulls l = n
      · simp only [hsum, if_true]
        cases distribute rd n <;> rfl
      · simp only [hsum, if_false]

/-- a send-all is `specSendAll` on the denotations of its sub-expressions -/
theorem runSend_all_refines (vars : Vars) (st : RState) (r : Range) (a : Expr) (src : Source) (dst : Dest)
    (asset : String) (rs : RSource) (rd : RDest)
    (ha : evalAs vars a expectAsset = .ok asset)
    (hs : resolveS vars asset src = .ok rs) (hd : resolveD vars asset dst = .ok rd) :
    runSendStatement vars st (.all r a) src dst =
      (match specSendAll asset rs rd (availOfCache st.cache asset) with
       | .ok ps => .ok (ps, { st with cache := applyPostings st.cache ps })
       | .err e => .err e
       | .panic s => .panic s) := by
  unfold runSendStatement specSendAll
  simp only [ha]
  rw [sendAll_refines_drawAll ⟨vars, st.cache, asset⟩ src rs [] hs, st_availOf_nil]
  cases hdr : drawAll asset rs (availOfCache st.cache asset) with
  | err e => rfl
  | panic s => rfl
  | ok l =>
    simp only [List.nil_append]
    rw [receive_refines_distribute ⟨vars, st.cache, asset⟩ dst rd (sumPulls l) [] hd]
    cases distribute rd (sumPulls l) <;> rfl

/-! ### what a successful statement is made of -/

/-- `ps` is the pairing of a draw `l` with a distribution `d` of the same total, the zero entries
    left out: the form of input on which the `Reconcile` theorems speak -/
structure st_Paired (asset : String) (l d : Pulls) (ps : List Posting) : Prop where
  eq : ps = Reconcile asset (nonzero l) (nonzero d)
  posL : ∀ p ∈ nonzero l, 0 < p.2
  posD : ∀ p ∈ nonzero d, 0 < p.2
  total : sumPulls (nonzero l) = sumPulls (nonzero d)

theorem st_Paired.of_nonneg (asset : String) {l d : Pulls} (hl : ∀ p ∈ l, 0 ≤ p.2)
    (hd : ∀ p ∈ d, 0 ≤ p.2) (h : sumPulls l = sumPulls d) :
    st_Paired asset l d (Reconcile asset (nonzero l) (nonzero d)) :=
  ⟨rfl, st_nonzero_pos l hl, st_nonzero_pos d hd, by rw [sumPulls_nonzero, sumPulls_nonzero, h]⟩

theorem st_specSend_paired (asset : String) (n : Int) (rs : RSource) (rd : RDest) (av : Avail)
    (ps : List Posting) (hps : PortionsNonnegS rs) (hpd : PortionsNonnegD rd)
    (h : specSend asset n rs rd av = .ok ps) :
    ∃ l d, 0 ≤ n ∧ draw asset rs av n = .ok l ∧ distribute rd n = .ok d ∧ sumPulls l = n ∧
      st_Paired asset l d ps := by
  obtain ⟨hn, l, d, hl, hsum, hd, rfl⟩ := specSend_ok_iff.1 h
  obtain ⟨hsd, hdn⟩ := distribute_conserves rd n d hn hpd hd
  exact ⟨l, d, hn, hl, hd, hsum,
    .of_nonneg asset (draw_pulls_nonneg asset rs av n l hn hps hl) hdn (hsum.trans hsd.symm)⟩

theorem st_specSendAll_paired (asset : String) (rs : RSource) (rd : RDest) (av : Avail)
    (ps : List Posting) (hps : PortionsNonnegS rs) (hpd : PortionsNonnegD rd)
    (h : specSendAll asset rs rd av = .ok ps) :
    ∃ l d, drawAll asset rs av = .ok l ∧ distribute rd (sumPulls l) = .ok d ∧
      st_Paired asset l d ps := by
  obtain ⟨l, d, hl, hd, rfl⟩ := specSendAll_ok_iff.1 h
  have hln := drawAll_pulls_nonneg asset rs av l hps hl
  obtain ⟨hsd, hdn⟩ := distribute_conserves rd (sumPulls l) d (sumPulls_nonneg_of l hln) hpd hd
  exact ⟨l, d, hl, hd, .of_nonneg asset hln hdn hsd.symm⟩

theorem st_Paired.real {asset : String} {l d : Pulls} {ps : List Posting} (h : st_Paired asset l d ps)
    {A B : List String} (hA : ∀ p ∈ l, p.1 ∈ A) (hB : ∀ p ∈ d, p.1 ∈ B ∨ p.1 = KEPT_ADDR) :
    ∀ p ∈ ps, 0 < p.amount ∧ p.asset = asset ∧ p.destination ≠ KEPT_ADDR ∧ p.source ∈ A ∧
      p.destination ∈ B := by
  obtain ⟨rfl, hl, hd, _⟩ := h
  intro p hp
  obtain ⟨hsrc, hdst, hasset⟩ := reconcile_names asset _ _ p hp
  have hk := reconcile_never_credits_kept asset _ _ p hp
  obtain ⟨q, hq, e⟩ := List.mem_map.1 hsrc
  obtain ⟨q', hq', e'⟩ := List.mem_map.1 hdst
  refine ⟨reconcile_positive asset _ _ hl hd p hp, hasset, hk, e ▸ hA q (st_mem_nonzero hq).1, ?_⟩
  rcases hB q' (st_mem_nonzero hq').1 with hb | hb
  · exact e' ▸ hb
  · exact absurd (e' ▸ hb) hk

theorem st_Paired.prefix_bound {asset : String} {l d : Pulls} {ps : List Posting}
    (h : st_Paired asset l d ps) (a : String) (k : Nat) :
    debitsOf (ps.take k) a ≤ pulled l a ∧ 0 ≤ creditsOf (ps.take k) a := by
  obtain ⟨rfl, hl, hd, _⟩ := h
  refine ⟨?_, reconcile_prefix_credits_nonneg asset _ _ hl hd a k⟩
  rw [← pulled_nonzero l a]
  exact reconcile_prefix_debits_le asset _ _ hl hd a k

theorem st_Paired.sum {asset : String} {l d : Pulls} {ps : List Posting} (h : st_Paired asset l d ps) :
    sumAmounts ps = sumPulls l - keptOf d := by
  obtain ⟨rfl, hl, hd, heq⟩ := h
  unfold sumAmounts keptOf
  rw [reconcile_total asset _ _ hl hd heq, sumPulls_nonzero, pulled_nonzero]

/-! ### C03: a fixed-amount send moves exactly that amount or fails for lack of funds -/

/-- the postings add up to the amount minus what the destination keeps -/
theorem specSend_total (asset : String) (n : Int) (rs : RSource) (rd : RDest) (av : Avail) (ps : List Posting)
    (hps : PortionsNonnegS rs) (hpd : PortionsNonnegD rd) (hk : allotLenOk rs)
    (h : specSend asset n rs rd av = .ok ps) :
    ∃ d, distribute rd n = .ok d ∧ sumAmounts ps = n - keptOf d := by
  have _ := hk
  obtain ⟨l, d, _, _, hd, hsum, hp⟩ := st_specSend_paired asset n rs rd av ps hps hpd h
  exact ⟨d, hd, hsum ▸ hp.sum⟩

/-- it fails exactly when the amount is negative, the draw fails, the sources give less than `n`,
    or the destination is invalid — and a shortage is reported as missing funds -/
theorem specSend_fails_iff (asset : String) (n : Int) (rs : RSource) (rd : RDest) (av : Avail) (e : Err) :
    specSend asset n rs rd av = .err e ↔
      (n < 0 ∧ e = .negativeAmount n) ∨
      (0 ≤ n ∧ draw asset rs av n = .err e) ∨
      (0 ≤ n ∧ ∃ l, draw asset rs av n = .ok l ∧ sumPulls l ≠ n ∧ e = .missingFunds asset n (sumPulls l)) ∨
      (0 ≤ n ∧ ∃ l, draw asset rs av n = .ok l ∧ sumPulls l = n ∧ distribute rd n = .err e) := by
  unfold specSend
  constructor
  · intro h
    split at h
    · cases h
      exact .inl ⟨‹_›, rfl⟩
    have h0 : 0 ≤ n := by omega
    split at h <;> try cases h
    · exact .inr (.inl ⟨h0, ‹_›⟩)
    split at h
    · split at h <;> cases h
      exact .inr (.inr (.inr ⟨h0, _, ‹_›, ‹_›, ‹_›⟩))
    · cases h
      exact .inr (.inr (.inl ⟨h0, _, ‹_›, ‹_›, rfl⟩))
  · rintro (⟨hn, rfl⟩ | ⟨h0, hd⟩ | ⟨h0, l, hl, hne, rfl⟩ | ⟨h0, l, hl, hsum, hd⟩)
    · rw [if_pos hn]
    · rw [if_neg (by omega), hd]
    · rw [if_neg (by omega), hl]
      dsimp only
      rw [if_neg hne]
    · rw [if_neg (by omega), hl]
      dsimp only
      rw [if_pos hsum, hd]

/-- a draw can only fail for lack of funds in an allotment or because of invalid portions -/
theorem draw_err_kinds (asset : String) (r : RSource) (av : Avail) (need : Int) (e : Err)
    (h : draw asset r av need = .err e) :
    (∃ a x y, e = .missingFunds a x y) ∨ (∃ q, e = .invalidAllotmentSum q) :=
  draw_err asset r av need e h

/-- a send of zero succeeds with no posting, given that its draw and its distribution succeed -/
theorem specSend_zero (asset : String) (rs : RSource) (rd : RDest) (av : Avail) (d : Pulls)
    (hd : distribute rd 0 = .ok d) (hpd : PortionsNonnegD rd)
    (hdraw : ∃ l, draw asset rs av 0 = .ok l) : specSend asset 0 rs rd av = .ok [] := by
  have _ := hpd
  obtain ⟨l, hl⟩ := hdraw
  have hlz := st_draw_zero_all asset rs av l hl
  refine specSend_ok_iff.2 ⟨le_refl 0, l, d, hl, st_sumPulls_all_zero l hlz, hd, ?_⟩
  rw [st_nonzero_all_zero l hlz, reconcile_nil_senders_no_kept]

/-! ### C02: every posting is a real transfer -/

theorem specSend_postings_real (asset : String) (n : Int) (rs : RSource) (rd : RDest) (av : Avail) (ps : List Posting)
    (hps : PortionsNonnegS rs) (hpd : PortionsNonnegD rd)
    (h : specSend asset n rs rd av = .ok ps) :
    ∀ p ∈ ps, 0 < p.amount ∧ p.asset = asset ∧ p.destination ≠ KEPT_ADDR ∧
      p.source ∈ accountsOfS rs ∧ p.destination ∈ accountsOfD rd := by
  obtain ⟨l, d, _, hl, hd, _, hp⟩ := st_specSend_paired asset n rs rd av ps hps hpd h
  exact hp.real (st_draw_names asset rs av n l hl) (st_distribute_names rd n d hd)

theorem specSendAll_postings_real (asset : String) (rs : RSource) (rd : RDest) (av : Avail) (ps : List Posting)
    (hps : PortionsNonnegS rs) (hpd : PortionsNonnegD rd)
    (h : specSendAll asset rs rd av = .ok ps) :
    ∀ p ∈ ps, 0 < p.amount ∧ p.asset = asset ∧ p.destination ≠ KEPT_ADDR ∧
      p.source ∈ accountsOfS rs ∧ p.destination ∈ accountsOfD rd := by
  obtain ⟨l, d, hl, hd, hp⟩ := st_specSendAll_paired asset rs rd av ps hps hpd h
  exact hp.real (st_drawAll_names asset rs av l hl) (st_distribute_names rd _ d hd)

/-! ### C01 (one statement): no prefix of the statement's postings debits an account beyond
    its available balance plus the largest overdraft the source grants it -/

theorem specSend_debits_bound (asset : String) (n : Int) (rs : RSource) (rd : RDest) (av : Avail)
    (ps : List Posting) (a : String) (k : Nat)
    (hps : PortionsNonnegS rs) (hpd : PortionsNonnegD rd) (hu : unbIn a rs = false)
    (h : specSend asset n rs rd av = .ok ps) :
    debitsOf (ps.take k) a ≤ max 0 (av a + maxGrant (grantsOf a rs)) ∧ 0 ≤ creditsOf (ps.take k) a := by
  obtain ⟨l, d, hn, hl, _, _, hp⟩ := st_specSend_paired asset n rs rd av ps hps hpd h
  obtain ⟨h1, h2⟩ := hp.prefix_bound a k
  exact ⟨le_trans h1 (draw_pulled_bound asset rs av n l a hn hps hu hl), h2⟩

theorem specSendAll_debits_bound (asset : String) (rs : RSource) (rd : RDest) (av : Avail)
    (ps : List Posting) (a : String) (k : Nat)
    (hps : PortionsNonnegS rs) (hpd : PortionsNonnegD rd) (hu : unbIn a rs = false)
    (h : specSendAll asset rs rd av = .ok ps) :
    debitsOf (ps.take k) a ≤ max 0 (av a + maxGrant (grantsOf a rs)) ∧ 0 ≤ creditsOf (ps.take k) a := by
  obtain ⟨l, d, hl, _, hp⟩ := st_specSendAll_paired asset rs rd av ps hps hpd h
  obtain ⟨h1, h2⟩ := hp.prefix_bound a k
  exact ⟨le_trans h1 (drawAll_pulled_bound asset rs av l a hps hu hl), h2⟩

/-- an account that the source does not name is not debited at all -/
theorem specSend_no_debit_of_absent (asset : String) (n : Int) (rs : RSource) (rd : RDest) (av : Avail)
    (ps : List Posting) (a : String) (hps : PortionsNonnegS rs) (hpd : PortionsNonnegD rd)
    (ha : a ∉ accountsOfS rs) (h : specSend asset n rs rd av = .ok ps) : ∀ p ∈ ps, p.source ≠ a := by
  intro p hp e
  exact ha (e ▸ (specSend_postings_real asset n rs rd av ps hps hpd h p hp).2.2.2.1)

/-! ### C04 / C05 (observable form): per-account debits and credits of the statement -/

/-- credits: every real destination account receives exactly its share of the distribution;
    credited plus kept equals sent -/
theorem specSend_credits (asset : String) (n : Int) (rs : RSource) (rd : RDest) (av : Avail) (ps : List Posting)
    (hps : PortionsNonnegS rs) (hpd : PortionsNonnegD rd) (hk : allotLenOk rs)
    (h : specSend asset n rs rd av = .ok ps) :
    ∃ d, distribute rd n = .ok d ∧ (∀ x, x ≠ KEPT_ADDR → creditsOf ps x = pulled d x) ∧
      sumAmounts ps + keptOf d = n := by
  have _ := hk
  obtain ⟨l, d, _, _, hd, hsum, hp⟩ := st_specSend_paired asset n rs rd av ps hps hpd h
  refine ⟨d, hd, fun x hx => ?_, by rw [hp.sum, hsum, Int.sub_add_cancel]⟩
  obtain ⟨rfl, hlp, hdp, heq⟩ := hp
  rw [reconcile_credits asset _ _ hlp hdp heq x hx, pulled_nonzero]

/-- debits: every source account is debited at most what the greedy draw takes from it, and exactly
    that when nothing is kept -/
theorem specSend_debits (asset : String) (n : Int) (rs : RSource) (rd : RDest) (av : Avail) (ps : List Posting)
    (hps : PortionsNonnegS rs) (hpd : PortionsNonnegD rd) (hk : allotLenOk rs)
    (h : specSend asset n rs rd av = .ok ps) :
    ∃ l d, draw asset rs av n = .ok l ∧ distribute rd n = .ok d ∧
      (∀ a, debitsOf ps a ≤ pulled l a) ∧ (keptOf d = 0 → ∀ a, debitsOf ps a = pulled l a) := by
  have _ := hk
  obtain ⟨l, d, _, hl, hd, _, rfl, hlp, hdp, heq⟩ := st_specSend_paired asset n rs rd av ps hps hpd h
  refine ⟨l, d, hl, hd, ?_, ?_⟩
  · intro a
    have := reconcile_debits_le_pulled asset _ _ hlp hdp a
    rwa [pulled_nonzero] at this
  · intro hkept a
    rw [reconcile_debits_exact asset _ _ hlp hdp heq ((pulled_nonzero d KEPT_ADDR).trans hkept) a,
      pulled_nonzero]

/-- C07 at statement level: the flows are the in-order unit pairing of the draw with the distribution -/
theorem specSend_flows (asset : String) (n : Int) (rs : RSource) (rd : RDest) (av : Avail) (ps : List Posting)
    (hps : PortionsNonnegS rs) (hpd : PortionsNonnegD rd)
    (h : specSend asset n rs rd av = .ok ps) :
    ∃ l d, draw asset rs av n = .ok l ∧ distribute rd n = .ok d ∧
      ∀ s x, x ≠ KEPT_ADDR → flowOf ps s x = (unitFlow (nonzero l) (nonzero d) s x : Int) := by
  obtain ⟨l, d, _, hl, hd, _, rfl, hlp, hdp, _⟩ := st_specSend_paired asset n rs rd av ps hps hpd h
  exact ⟨l, d, hl, hd, fun s x hx => reconcile_flow_eq_pairing asset _ _ hlp hdp s x hx⟩

/-! non-vacuity: {@a @a} with 10 on @a cannot send 20 -/
example : specSend "USD" 20 (.inorder [.acct "a" 0, .acct "a" 0]) (.acct "b") (fun _ => 10) =
    .err (.missingFunds "USD" 20 10) := by
  rfl

end NS
