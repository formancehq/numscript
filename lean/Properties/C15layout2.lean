/-
  Properties/C15layout2.lean — layout insertion (C15), proved for every layout that keeps a whitespace character
  directly after each token: blanks, tabs, line breaks, block comments and line comments
  inserted in front of, between and behind the tokens never change the token stream, hence (with `parse_unparse`)
  never change the tree.  The excluded case — a comment glued to the preceding token — is where the full-strength
  statement is false (`layout_insertion_fails_comment_after_asset`); the other known finding (an asset made of
  slashes) is excluded by `Shape.Lexable` (assets start with a capital letter).
-/
import Proofs.LayoutLemmas
import Properties.C15roundtrip

namespace NS

/-- PARTIAL form of "inserting whitespace, newlines or comments between tokens never changes the token stream" -/
theorem lex_layout_insertion_partial (shapes : List Shape) (seps : List (List Char)) (lead trail : List Char)
    (h : ∀ s ∈ shapes, s.Lexable) (hs : ∀ sep ∈ seps, SafeSep sep)
    (hlead : Layout lead) (htrail : trail = [] ∨ SafeSep trail) :
    (lex (lead ++ interleave shapes seps ++ trail)).map (fun ts => ts.map Tok.shape) = some shapes := by
  unfold lex
  cases shapes with
  | nil =>
    have htl : Layout trail := htrail.elim (fun e => e ▸ Layout.nil) (·.1)
    simp only [interleave, List.append_nil]
    rw [ly_skip_end (lead ++ trail) (ly_layout_append lead trail hlead htl) _ 0 0 (Nat.lt_succ_self _)]
    rfl
  | cons s rest =>
    rw [List.append_assoc]
    obtain ⟨f', l', c', hf', hskip⟩ := ly_skip lead _ hlead (ly_interleave_next s rest seps (h s (by simp)) trail)
      ((lead ++ (interleave (s :: rest) seps ++ trail)).length + 1) 0 0 (Nat.lt_succ_self _)
    rw [hskip]
    exact ly_lexLoop_layout (s :: rest) h trail htrail seps hs f' l' c' hf'

/-- … nor the tree: a writable tree with well-spelt names, written with any such layout, parses to that tree -/
theorem parse_layout_insertion_partial (p : Program) (hp : p.Printable) (hl : ∀ s ∈ p.toks, s.Lexable)
    (seps : List (List Char)) (lead trail : List Char) (hs : ∀ sep ∈ seps, SafeSep sep)
    (hlead : Layout lead) (htrail : trail = [] ∨ SafeSep trail) :
    (parseProgram (lead ++ interleave p.toks seps ++ trail)).map Program.skel = some p.skel := by
  have hlex := lex_layout_insertion_partial p.toks seps lead trail hl hs hlead htrail
  cases hts : lex (lead ++ interleave p.toks seps ++ trail) with
  | none => rw [hts] at hlex; cases hlex
  | some ts =>
    rw [hts, Option.map_some, Option.some.injEq] at hlex
    unfold parseProgram
    rw [hts]
    simp only [unparse_numbers_in_range p hp ts hlex, if_true]
    exact parse_unparse p hp ts hlex

/-! non-vacuity (tests) -/
example : SafeSep " /* a * b */\t// c\r\n\n  ".toList := by
  refine ⟨?_, ' ', _, rfl, by decide⟩
  refine Layout.ws ' ' _ (by decide) ?_
  refine Layout.block " a * b ".toList _ (by decide) ?_
  refine Layout.ws '\t' _ (by decide) ?_
  refine Layout.line " c".toList '\r' _ (by decide) (by decide) ?_
  refine Layout.ws '\n' _ (by decide) ?_
  refine Layout.ws '\n' _ (by decide) ?_
  refine Layout.ws ' ' _ (by decide) ?_
  exact Layout.ws ' ' _ (by decide) Layout.nil

example : (lex "// x\nsend \n/* c */ [USD\t1 ] // t\n".toList).map (fun ts => ts.map Tok.shape)
    = some [(.kwSend, "send".toList), (.lbracket, ['[']), (.asset, "USD".toList), (.number, ['1']), (.rbracket, [']'])] := by
  decide

end NS
