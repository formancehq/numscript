/-
  Properties/C13strings.lean — C13 for string literals: a literal denotes the text between its quotes, verbatim.
  For every body made of escaped quotes (`\"`) and of characters other than a quote and a line break (a backslash
  only where the next character of the body is not a quote), the lexer reads `"body"` as ONE string token whatever
  follows; stripping the first and the last character of that token's text, which is what the parser does to get the
  value, leaves `body` — backslashes included, nothing trimmed.
-/
import Proofs.LexLemmas

namespace NS

inductive StrBody : List Char → Prop
  | nil : StrBody []
  | esc (t : List Char) : StrBody t → StrBody ('\\' :: '"' :: t)
  | plain (c : Char) (t : List Char) : c ≠ '"' → isNlChar c = false →
      (c = '\\' → ∃ d t', t = d :: t' ∧ d ≠ '"') → StrBody t → StrBody (c :: t)

/-- the lexer's STRING rule walks over a body and goes on with what follows it -/
theorem strBody_append (body tail : List Char) (k : Nat) (h : StrBody body) (ht : strBody tail = some k) :
    strBody (body ++ tail) = some (body.length + k) := by
  induction h with
  | nil => simp [ht]
  | esc t _ ih =>
    simp only [List.cons_append, strBody, ih, List.length_cons]
    congr 1; omega
  | plain c t hq hnl hb _ ih =>
    have hb' : c = '\\' → ∀ r, t ++ tail ≠ '"' :: r := by
      intro hc r e
      obtain ⟨d, t', rfl, hd⟩ := hb hc
      exact hd (List.cons.inj e).1
    rw [List.cons_append, lx_strBody_step c _ hq hnl hb', ih, Option.map_some, List.length_cons]
    congr 1; omega

/-- … and consumes exactly the body and the closing quote, whatever follows -/
theorem strBody_body (body rest : List Char) (h : StrBody body) :
    strBody (body ++ '"' :: rest) = some (body.length + 1) :=
  strBody_append body ('"' :: rest) 1 h (by simp [strBody])

/-- C13: `"body"` is one STRING token of `body.length + 2` characters, whatever follows it -/
theorem string_literal_is_one_token (body rest : List Char) (h : StrBody body) :
    mString ('"' :: body ++ '"' :: rest) = body.length + 2 := by
  simp only [mString, List.cons_append, strBody_body body rest h]

/-- C13: a body that ENDS with a lone backslash: when no further quote follows on the line, the lexer backs off from
    reading `\"` as an escape and the literal is `"body\"` — one token, the backslash part of the value -/
theorem string_literal_trailing_backslash (body rest : List Char) (h : StrBody body) (hr : strBody rest = none) :
    mString ('"' :: body ++ '\\' :: '"' :: rest) = body.length + 3 := by
  have h2 : strBody ('\\' :: '"' :: rest) = some 2 := by simp [strBody, hr]
  simp only [mString, List.cons_append, strBody_append body _ 2 h h2]

/-- C13: the token without its first and last character is the body, verbatim.  A fact about lists: that `pPrimary`
    (Model/Parse.lean) takes the value of a string token as `t.text.tail.dropLast` is read there, not stated here -/
theorem string_literal_value (body : List Char) :
    (('"' :: body ++ ['"']).tail).dropLast = body := by
  simp

/-! non-vacuity (tests): bodies with escaped quotes first, in the middle and last, and backslashes elsewhere -/
example : StrBody "say \\\"hi\\\"".toList := by
  refine .plain 's' _ (by decide) (by decide) (by intro h; cases h) ?_
  refine .plain 'a' _ (by decide) (by decide) (by intro h; cases h) ?_
  refine .plain 'y' _ (by decide) (by decide) (by intro h; cases h) ?_
  refine .plain ' ' _ (by decide) (by decide) (by intro h; cases h) ?_
  refine .esc _ ?_
  refine .plain 'h' _ (by decide) (by decide) (by intro h; cases h) ?_
  refine .plain 'i' _ (by decide) (by decide) (by intro h; cases h) ?_
  exact .esc _ .nil

example : mString "\"a\\\\b\\\"\" , \"next\"".toList = 8 := by decide
example : mString "\"C:\\\")\n\"next\"".toList = 5 := by decide

end NS
