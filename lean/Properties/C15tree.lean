/-
  Properties/C15tree.lean — the parser model (Model/Parse.lean), facts that do not involve
  positions: an accepted text gives a tree without nil children (the `Complete` class that
  C12/C16/C17 quantify over), whose allotment clauses have the parser's shapes, `+`/`-`
  associate to the left, and structure and literal values depend on the kinds and texts of the
  tokens only — not on where they stand (layout independence from the token stream upward).
-/
import Proofs.ParseLemmas
import Properties.C14grammar

namespace NS

/-- an accepted text yields a tree with no nil child anywhere -/
theorem parse_complete (text : List Char) (p : Program) (h : parseProgram text = some p) : p.Complete := by
  obtain ⟨_, _, hp, _⟩ := parse_text_sound text p h
  exact (pt_program_printable p hp).1

/-- allotment clauses are `remaining`, a portion literal or a variable -/
theorem parse_shape_ok (text : List Char) (p : Program) (h : parseProgram text = some p) :
    ∀ s ∈ p.stmts, s.ShapeOk := by
  obtain ⟨_, _, hp, _⟩ := parse_text_sound text p h
  exact (pt_program_printable p hp).2.1

/-- `a - b + c` is `(a - b) + c`, at every depth -/
theorem parse_left_assoc (text : List Char) (p : Program) (h : parseProgram text = some p) :
    ∀ e ∈ p.exprs, e.LeftAssoc := by
  obtain ⟨_, _, hp, _⟩ := parse_text_sound text p h
  exact (pt_program_printable p hp).2.2

/-- two token streams with the same kinds and texts (whatever their positions) are both rejected
    or give the same tree up to ranges -/
theorem parse_layout_independent (ts ts' : List Tok) (h : ts.map Tok.shape = ts'.map Tok.shape) :
    (parseTokens ts).map Program.skel = (parseTokens ts').map Program.skel := by
  replace h : pt_Sim ts ts' := h
  refine Option.Rel.map_eq ?_
  rw [pt_parseTokens_eq, pt_parseTokens_eq, ← h.length_eq]
  generalize 4 * ts.length + 8 = f
  generalize ts.length + 1 = n
  have hstmts : Option.Rel (fun p p' => Program.skel p = Program.skel p')
      ((pStatements f n ts).bind fun ss => some ⟨[], ss⟩)
      ((pStatements f n ts').bind fun ss => some ⟨[], ss⟩) :=
    (pt_statements_sim f n _ _ h).bind fun ss ss' hss => .some (by simp only [Program.skel, hss])
  rcases pt_Sim_cases h with ⟨rfl, rfl⟩ | ⟨v, r, v', r', rfl, rfl, hk, -, hr⟩
  · exact hstmts
  · rcases pt_Sim_cases hr with ⟨rfl, rfl⟩ | ⟨lb, rl, lb', rl', rfl, rfl, hkl, -, hrl⟩
    · exact hstmts
    · simp only [hk, hkl]
      refine .ite (fun _ => .ite (fun _ => ?_) fun _ => .none) fun _ => hstmts
      refine (pt_varDecls_sim f n _ _ hrl).bindResL fun ds r1 ds' r1' hds hr1 => ?_
      refine (pt_statements_sim f n _ _ hr1).bind fun ss ss' hss => .some ?_
      simp only [Program.skel, hds, hss]

end NS
