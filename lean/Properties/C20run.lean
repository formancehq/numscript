/-
  Properties/C20run.lean — `numscript run` (JSON mode): non-zero status exactly when the library reports parse errors
  or an execution error; on an error nothing is written to stdout and stderr begins with the library's message; on
  success stdout is exactly the JSON of the library's result and stderr is empty.
-/
import Model.CliRun

namespace NS

/-- what a run that does not panic writes, by the library's outcome -/
theorem cliRun_ok (source : List Char) (o : RunOutcome) (out : CliOut) (h : cliRun source o = .ok out) :
    match o with
    | .parseErrors errs => (errs = [] ∧ out = ⟨"", "", 0⟩) ∨
        ∃ s, parseErrorsToString source errs = .ok s ∧ out = ⟨"", "Got errors while parsing:\n" ++ s, 1⟩
    | .failed msg _ => ∃ rest, out = ⟨"", msg ++ rest, 1⟩
    | .ok json => out = ⟨json, "", 0⟩ := by
  cases o with
  | parseErrors errs =>
    rw [cliRun] at h
    split at h
    · exact .inl ⟨‹_›, (Outcome.ok.inj h).symm⟩
    · split at h <;> cases h
      exact .inr ⟨_, ‹_›, rfl⟩
  | failed msg r =>
    rw [cliRun] at h
    split at h
    · split at h <;> cases h
      exact ⟨"\n" ++ _, by rw [String.append_assoc]⟩
    · cases h
      exact ⟨"", by rw [String.append_empty]⟩
  | ok json => exact (Outcome.ok.inj h).symm

theorem cliRun_exit_iff (source : List Char) (o : RunOutcome) (out : CliOut)
    (hne : ∀ errs, o = .parseErrors errs → errs ≠ []) (h : cliRun source o = .ok out) :
    out.exit ≠ 0 ↔ ∀ json, o ≠ .ok json := by
  have := cliRun_ok source o out h
  cases o with
  | parseErrors errs =>
    obtain ⟨he, -⟩ | ⟨s, -, rfl⟩ := this
    · exact absurd he (hne errs rfl)
    · simp
  | failed msg r => obtain ⟨rest, rfl⟩ := this; simp
  | ok json => simp [show out = _ from this]

/-- success: exactly the library's JSON on stdout, nothing on stderr, status 0 -/
theorem cliRun_ok_prints_result (source : List Char) (json : String) :
    cliRun source (.ok json) = .ok ⟨json, "", 0⟩ := rfl

/-- execution error: nothing on stdout, status 1, stderr begins with the error message -/
theorem cliRun_error_message (source : List Char) (msg : String) (r : Range) (out : CliOut)
    (h : cliRun source (.failed msg r) = .ok out) :
    out.stdout = "" ∧ out.exit = 1 ∧ ∃ rest, out.stderr = msg ++ rest := by
  obtain ⟨rest, rfl⟩ := cliRun_ok source _ out h
  exact ⟨rfl, rfl, rest, rfl⟩

theorem parseErrorsToString_lists (source : List Char) (errs : List (String × Range)) (s : String)
    (h : parseErrorsToString source errs = .ok s) :
    ∀ e ∈ errs, ∃ pre post, s = pre ++ e.1 ++ post := by
  induction errs generalizing s with
  | nil => nofun
  | cons x xs ih =>
    obtain ⟨msg, r⟩ := x
    rw [parseErrorsToString] at h
    split at h <;> cases h
    next shown tail _ ht =>
    intro e he
    rcases List.mem_cons.mp he with rfl | he
    · exact ⟨"", "\n" ++ shown ++ "\n" ++ tail, by simp [String.append_assoc]⟩
    · obtain ⟨pre, post, rfl⟩ := ih tail ht e he
      exact ⟨msg ++ "\n" ++ shown ++ "\n" ++ pre, post, by simp [String.append_assoc]⟩

/-- parse errors: nothing on stdout, status 1, every error message is on stderr -/
theorem cliRun_parse_errors (source : List Char) (errs : List (String × Range)) (hne : errs ≠ []) (out : CliOut)
    (h : cliRun source (.parseErrors errs) = .ok out) :
    out.stdout = "" ∧ out.exit = 1 ∧ ∀ e ∈ errs, ∃ pre post, out.stderr = pre ++ e.1 ++ post := by
  obtain ⟨he, -⟩ | ⟨s, hs, rfl⟩ := cliRun_ok source _ out h
  · exact absurd he hne
  · refine ⟨rfl, rfl, fun e he => ?_⟩
    obtain ⟨pre, post, rfl⟩ := parseErrorsToString_lists source errs s hs e he
    exact ⟨"Got errors while parsing:\n" ++ pre, post, by simp [String.append_assoc]⟩

/-! non-vacuity (tests) -/
example : cliRun "send [USD 1] (\n".toList (.failed "boom" ⟨⟨0, 5⟩, ⟨0, 12⟩⟩)
    = .ok ⟨"", "boom\n  0 | send [USD 1] (\n    |      ~~~~~~~\n  1 | \n", 1⟩ := by rfl
example : cliRun [] (.failed "no range" ⟨⟨0, 0⟩, ⟨0, 0⟩⟩) = .ok ⟨"", "no range", 1⟩ := by rfl

end NS
