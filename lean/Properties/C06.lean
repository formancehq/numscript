/-
  Properties/C06.lean — allotments split exactly: floor shares, leftover units
  leftmost, nothing lost.
-/
import Proofs.AllotLemmas

namespace NS

/-- the shares add up to exactly the amount -/
theorem allot_sum (n : Int) (ps : List Rat) (hn : 0 ≤ n) (hp : ∀ p ∈ ps, 0 ≤ p) (hs : ps.sum = 1) :
    (allotParts n ps).sum = n :=
  allotParts_sum n ps hs

/-- the leftover after the floors is non-negative and smaller than the number of clauses
    (so the leftover loop always finishes inside the list) -/
theorem allot_leftover_lt (n : Int) (ps : List Rat) (hn : 0 ≤ n) (hp : ∀ p ∈ ps, 0 ≤ p)
    (hs : ps.sum = 1) : 0 ≤ leftover n ps ∧ leftover n ps < ps.length :=
  leftover_bounds n ps hs

/-- one share per clause -/
theorem allot_length (n : Int) (ps : List Rat) : (allotParts n ps).length = ps.length :=
  allotParts_length n ps

/-- each share is the floor of the exact portion of the amount, plus one unit for exactly the
    earliest `leftover` clauses -/
theorem allot_share_formula (n : Int) (ps : List Rat) (hn : 0 ≤ n) (hp : ∀ p ∈ ps, 0 ≤ p)
    (hs : ps.sum = 1) (i : Nat) (hi : i < ps.length) :
    (allotParts n ps)[i]? = some (shareSpec n ps i) := by
  unfold allotParts shareSpec leftover
  simp only
  rw [bump_getElem? _ _ i (by simpa using hi)]
  simp [List.getD, List.getElem?_map, List.getElem?_eq_getElem hi]

/-- every share is non-negative and at most one unit above the exact portion rounded down -/
theorem allot_share_bounds (n : Int) (ps : List Rat) (hn : 0 ≤ n) (hp : ∀ p ∈ ps, 0 ≤ p)
    (hs : ps.sum = 1) (i : Nat) (hi : i < ps.length) :
    ∃ x, (allotParts n ps)[i]? = some x ∧ 0 ≤ x ∧
      floorShare n (ps.getD i 0) ≤ x ∧ x ≤ floorShare n (ps.getD i 0) + 1 := by
  refine ⟨shareSpec n ps i, allot_share_formula n ps hn hp hs i hi, ?_⟩
  have h0 : 0 ≤ floorShare n (ps.getD i 0) := by
    apply floorShare_nonneg n _ hn
    have : ps.getD i 0 = ps[i] := by simp [List.getD, List.getElem?_eq_getElem hi]
    rw [this]
    exact hp _ (List.getElem_mem hi)
  unfold shareSpec
  split <;> omega

/-- `makeAllotment` without a `remaining` clause: succeeds iff the portions sum to one, and then
    it is `allotParts` of the evaluated portions; otherwise `InvalidAllotmentSum` -/
theorem makeAllotment_no_remaining (vars : Vars) (n : Int) (items : List AllotVal) (qs : List (Option Rat))
    (hev : evalAllotItems vars items = .ok qs) (hnone : qs.any Option.isNone = false) :
    makeAllotment vars n items =
      (if sumSome qs = 1 then .ok (allotParts n (fillRemaining 0 qs))
       else .err (.invalidAllotmentSum (sumSome qs))) := by
  unfold makeAllotment
  rw [hev]
  simp only [Outcome.ok_bind, hnone, Outcome.pure_eq]
  by_cases h : sumSome qs = 1 <;> simp [h]

/-- `makeAllotment` with a `remaining` clause: rejected iff the other portions exceed one;
    otherwise the (last) `remaining` clause stands for one minus the other portions -/
theorem makeAllotment_with_remaining (vars : Vars) (n : Int) (items : List AllotVal) (qs : List (Option Rat))
    (hev : evalAllotItems vars items = .ok qs) (hsome : qs.any Option.isNone = true) :
    makeAllotment vars n items =
      (if sumSome qs > 1 then .err (.invalidAllotmentSum (sumSome qs))
       else .ok (allotParts n (fillRemaining (1 - sumSome qs) qs))) := by
  unfold makeAllotment
  rw [hev]
  simp only [Outcome.ok_bind, hsome, Outcome.pure_eq]
  simp

/-- with a `remaining` clause the filled-in portions are non-negative and sum to one, so the
    theorems above apply to what `makeAllotment` computes -/
theorem fillRemaining_sum (qs : List (Option Rat)) (hsome : qs.any Option.isNone = true) :
    (fillRemaining (1 - sumSome qs) qs).sum = 1 := by
  rw [fillRemaining_sum_of_remaining _ _ hsome]
  ring

theorem fillRemaining_nonneg (qs : List (Option Rat)) (hq : ∀ q, some q ∈ qs → 0 ≤ q)
    (hle : sumSome qs ≤ 1) : ∀ p ∈ fillRemaining (1 - sumSome qs) qs, 0 ≤ p :=
  fillRemaining_mem_nonneg _ (by linarith) qs hq

/-- without `remaining` the filled-in portions are the portions themselves -/
theorem fillRemaining_no_remaining_sum (qs : List (Option Rat)) (hnone : qs.any Option.isNone = false) :
    (fillRemaining 0 qs).sum = sumSome qs :=
  fillRemaining_sum_of_no_remaining 0 qs hnone

/-! non-vacuity: concrete splits -/
example : allotParts 10 [mkRat 1 3, mkRat 1 3, mkRat 1 3] = [4, 3, 3] := by decide +kernel
example : allotParts 99 [mkRat 15 100, mkRat 30 100, mkRat 55 100] = [15, 30, 54] := by decide +kernel
example : ([mkRat 1 3, mkRat 1 3, mkRat 1 3] : List Rat).sum = 1 := by decide +kernel

end NS
