/-
  Properties/C1415.lean — the parts of C14 / C15 about ranges and positions:
  error display never panics on the ranges the error listener produces;
  the range arithmetic of SyntaxError; position order and containment.
-/
import Proofs.ShowLemmas

namespace NS

/-- a range is displayable on a source: it lies on existing lines, does not end before it
    starts, and on a multi-line range the start column is within its line (in bytes) -/
def Range.Displayable (r : Range) (source : List Char) : Prop :=
  let lines := splitLines source
  r.s.line ≤ r.e.line ∧ r.e.line < lines.length ∧
  (r.s.line = r.e.line → r.s.char ≤ r.e.char) ∧
  (r.s.line < r.e.line → r.s.char ≤ byteLen (lines.getD r.s.line []))

/-- rendering a displayable range never panics (slice bounds, neighbours, Repeat counts) -/
theorem show_never_panics (r : Range) (source : List Char) (h : r.Displayable source) (s : String) :
    showOnSource r source ≠ .panic s := by
  obtain ⟨hse, hlen, h1, h2⟩ := h
  unfold showOnSource
  simp only []
  rw [if_neg (by omega)]
  have hn : ((splitLines source).drop r.s.line |>.take (r.e.line + 1 - r.s.line)).length
      = r.e.line + 1 - r.s.line := by
    rw [List.length_take, List.length_drop]; omega
  rw [hn]
  apply sh_showLoop_ne_panic r (splitLines source) hse hlen h1 h2 _ 0 ""
    ((splitLines source).take r.s.line)
    (((splitLines source).drop r.s.line).drop (r.e.line + 1 - r.s.line))
  · rw [List.append_assoc, List.take_append_drop, List.take_append_drop]
  · rw [List.length_take]; omega
  · rw [hn]; omega

/-- the range `SyntaxError` builds for a token of at least one character on an existing line is
    displayable: it starts where the token starts and does not end before it starts -/
theorem syntax_error_range_wf (source : List Char) (startL startC len : Nat)
    (hl : 1 ≤ startL) (hline : startL ≤ (splitLines source).length) (hlen : 1 ≤ len) :
    (syntaxErrorRange startL startC len).Displayable source ∧
    (syntaxErrorRange startL startC len).s = ⟨startL - 1, startC⟩ ∧
    (syntaxErrorRange startL startC len).s.char ≤ (syntaxErrorRange startL startC len).e.char := by
  refine ⟨⟨?_, ?_, ?_, ?_⟩, rfl, ?_⟩ <;> simp only [syntaxErrorRange] <;> omega

/-- hence displaying a reported syntax error never panics -/
theorem show_syntax_error_never_panics (source : List Char) (startL startC len : Nat)
    (hl : 1 ≤ startL) (hline : startL ≤ (splitLines source).length) (hlen : 1 ≤ len) (s : String) :
    showOnSource (syntaxErrorRange startL startC len) source ≠ .panic s :=
  show_never_panics _ _ (syntax_error_range_wf source startL startC len hl hline hlen).1 s

theorem splitLines_ne_nil (cs : List Char) : splitLines cs ≠ [] := by
  have go : ∀ cur, splitLines.go cur cs ≠ [] := by
    induction cs with
    | nil => simp [splitLines.go]
    | cons c t ih =>
      intro cur
      rw [splitLines.go]
      split
      · simp
      · exact ih _
  exact go []

/-! ### positions (internal/parser/range.go): `GtEq` is a total preorder, `Contains` is closed-interval membership -/

/-- `gtEq` is the lexicographic order on (line, character) -/
theorem gtEq_iff (p q : Pos) : p.gtEq q = true ↔ (q.line < p.line ∨ (q.line = p.line ∧ q.char ≤ p.char)) :=
  sh_gtEq_iff p q

theorem gtEq_refl (p : Pos) : p.gtEq p = true :=
  (gtEq_iff p p).2 (Or.inr ⟨rfl, Nat.le_refl _⟩)

theorem gtEq_total (p q : Pos) : p.gtEq q = true ∨ q.gtEq p = true := by
  rw [gtEq_iff, gtEq_iff]
  omega

theorem gtEq_trans (p q r : Pos) (h1 : p.gtEq q = true) (h2 : q.gtEq r = true) : p.gtEq r = true := by
  rw [gtEq_iff] at *
  omega

theorem gtEq_antisymm (p q : Pos) (h1 : p.gtEq q = true) (h2 : q.gtEq p = true) : p = q := by
  rw [gtEq_iff] at h1 h2
  obtain ⟨pl, pc⟩ := p
  obtain ⟨ql, qc⟩ := q
  rw [Pos.mk.injEq]
  dsimp only at h1 h2
  omega

/-- a range nested in another contains only positions the outer one contains
    (children lie within their parents ⇒ descending by containment is sound) -/
theorem contains_mono (inner outer : Range) (p : Pos)
    (hs : inner.s.gtEq outer.s = true) (he : outer.e.gtEq inner.e = true)
    (h : inner.contains p = true) : outer.contains p = true := by
  rw [Range.contains, Bool.and_eq_true] at h ⊢
  exact ⟨gtEq_trans _ _ _ h.1 hs, gtEq_trans _ _ _ he h.2⟩

/-- two ranges in order (the first ends strictly before the second starts) share no position -/
theorem contains_disjoint (a b : Range) (p : Pos) (hord : b.s.gtEq a.e = true) (hne : a.e ≠ b.s)
    (ha : a.contains p = true) : b.contains p = false := by
  rw [Bool.eq_false_iff]
  intro hb
  rw [Range.contains, Bool.and_eq_true] at ha hb
  exact hne (gtEq_antisymm _ _ (gtEq_trans _ _ _ ha.2 hb.1) hord)

end NS
